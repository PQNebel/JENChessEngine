/-
  `make_search_move` refines the rules' `apply`: for a move that fits the board with truthful flags (every generated
  move), the position denoted by the engine's new position is `Spec.apply` of the position denoted by the old one.
-/
import Jence.Lemmas.Refine
namespace Jence
open Jence

/-- the mailbox array `A` holds the board `bd` -/
def Holds (A : Array (Option Spec.Piece)) (bd : Board) : Prop :=
  A.size = 64 ∧ ∀ t, t < 64 → A.getD t none = (bd t).map pieceOf

theorem Holds.setSq {A : Array (Option Spec.Piece)} {bd : Board} (h : Holds A bd) (s : Nat) (hs : s < 64) (v : Option Nat) :
    Holds (Spec.setSq A s (v.map pieceOf)) (bd.set s v) := by
  obtain ⟨hsz, hg⟩ := h
  unfold Spec.setSq
  refine ⟨by rw [Array.size_setIfInBounds]; exact hsz, fun t ht => ?_⟩
  by_cases hts : t = s
  · subst hts; simp [Array.getD_eq_getD_getElem?, hsz, ht]
  · rw [Board.set_ne hts, ← hg t ht]
    have hst : ¬ s = t := fun h => hts h.symm
    simp [Array.getD_eq_getD_getElem?, hst]

theorem Holds.ext {A B : Array (Option Spec.Piece)} {bd : Board} (hA : Holds A bd) (hB : Holds B bd) : A = B := by
  apply Array.ext
  · rw [hA.1, hB.1]
  · intro i h1 h2
    have ha := hA.2 i (by rw [hA.1] at h1; exact h1)
    have hb := hB.2 i (by rw [hA.1] at h1; exact h1)
    simp only [Array.getD_eq_getD_getElem?, Array.getElem?_eq_getElem h1, Array.getElem?_eq_getElem h2, Option.getD_some] at ha hb
    rw [ha, hb]

/-- `at_` read as the array lookup it is, for an arbitrary position: as a definitional step at `Spec.abs g` the kernel
    would evaluate the board array -/
theorem at_getD (p : Spec.Position) (t : Nat) : p.board.getD t none = Spec.at_ p t := rfl

theorem abs_holds {g : Game} {b : Board} (wf : Wf g b) : Holds (Spec.abs g).board b :=
  ⟨by rw [Spec.abs, Array.size_map, Array.size_range], fun t ht => (at_getD _ t).trans (abs_at wf t ht)⟩

theorem ownP_kind {w : Bool} {X : Nat} (h : ownP w X) (k : Nat) (hk : k < 6) : (X = k ∨ X = k + 6) ↔ X = (if w then k else k + 6) :=
  ⟨ownP_eq_ite h hk, fun e => by cases w <;> simp at e <;> omega⟩

/-! The rules' move predicates, stated of an arbitrary rules position `p`: over `Spec.abs g` the kernel would evaluate the
  64-entry board array when it compares the unfolded predicate with the folded one. -/

section rules
variable (p : Spec.Position) (m : Move) {X : Nat}

theorem isEnPassant_of_src (hX : X < 12) (hsrc : Spec.at_ p m.fromSq = some (pieceOf X)) :
    Spec.isEnPassant p (smove m) = true ↔
      ((X = WP ∨ X = BP) ∧ p.ep = some m.toSq ∧ m.fromSq % 8 ≠ m.toSq % 8 ∧ Spec.occupiedIn p m.toSq = false) := by
  have hfile : Spec.fileOf m.fromSq = Spec.fileOf m.toSq ↔ m.fromSq % 8 = m.toSq % 8 := by unfold Spec.fileOf; omega
  unfold Spec.isEnPassant smove
  simp only [hsrc, Bool.and_eq_true, bne_iff_ne, ne_eq, Bool.not_eq_true', beq_iff_eq]
  rw [pieceOf_pawn _ hX, hfile, and_assoc, and_assoc]

theorem isCastle_of_src (hX : X < 12) (hsrc : Spec.at_ p m.fromSq = some (pieceOf X)) :
    Spec.isCastle p (smove m) = true ↔ ((X = WK ∨ X = BK) ∧ (m.toSq = m.fromSq + 2 ∨ m.toSq + 2 = m.fromSq)) := by
  unfold Spec.isCastle smove
  simp only [hsrc, Bool.and_eq_true, Bool.or_eq_true, pieceOf_king _ hX, beq_iff_eq]

end rules

theorem Spec.Position.ext_fields (p q : Spec.Position) (h1 : p.board = q.board) (h2 : p.white = q.white) (h3 : p.wk = q.wk) (h4 : p.wq = q.wq)
    (h5 : p.bk = q.bk) (h6 : p.bq = q.bq) (h7 : p.ep = q.ep) (h8 : p.half = q.half) (h9 : p.full = q.full) : p = q := by
  cases p; cases q; simp only at h1 h2 h3 h4 h5 h6 h7 h8 h9; subst h1 h2 h3 h4 h5 h6 h7 h8 h9; rfl

theorem rookHop_spec (w : Bool) (to r f t : Nat) (hhop : rookHop to = some (r, f, t)) (hro : ownP w r)
    (hto : to = (if w then 60 else 4) + 2 ∨ to + 2 = (if w then 60 else 4)) :
    pieceOf r = ⟨w, Spec.Kind.rook⟩ ∧
    (to > (if w then 60 else 4) → f = (if w then 60 else 4) + 3 ∧ t = (if w then 60 else 4) + 1) ∧
    (¬ to > (if w then 60 else 4) → f = (if w then 60 else 4) - 4 ∧ t = (if w then 60 else 4) - 1) := by
  -- the rook's colour fixes the side, the table the squares
  have hr := ownP_eq_ite hro (A := WR) (by decide) (rookHop_rook hhop)
  rcases rookHop_cases hhop with ⟨rfl, rfl, rfl, rfl⟩ | ⟨rfl, rfl, rfl, rfl⟩ | ⟨rfl, rfl, rfl, rfl⟩ | ⟨rfl, rfl, rfl, rfl⟩ <;> cases w
  · exact absurd hr (by decide)
  · exact ⟨rfl, by decide, by decide⟩
  · exact absurd hr (by decide)
  · exact ⟨rfl, by decide, by decide⟩
  · exact ⟨rfl, by decide, by decide⟩
  · exact absurd hr (by decide)
  · exact ⟨rfl, by decide, by decide⟩
  · exact absurd hr (by decide)

/-- the board `Spec.apply` computes, written out (the `let`s of `apply` for a position whose `src` square holds `pc`) -/
def specBoard (p : Spec.Position) (sm : Spec.SMove) (pc : Spec.Piece) : Array (Option Spec.Piece) :=
  let b0 := Spec.setSq p.board sm.src none
  let b1 := if Spec.isEnPassant p sm then Spec.setSq b0 (Spec.sqOf (Spec.fileOf sm.dst) (Spec.rowOf sm.src)) none else b0
  let placed : Spec.Piece := match sm.promo with | some k => ⟨pc.white, k⟩ | none => pc
  let b2 := Spec.setSq b1 sm.dst (some placed)
  if Spec.isCastle p sm then
    if sm.dst > sm.src then Spec.setSq (Spec.setSq b2 (sm.src + 3) none) (sm.src + 1) (some ⟨pc.white, .rook⟩)
    else Spec.setSq (Spec.setSq b2 (sm.src - 4) none) (sm.src - 1) (some ⟨pc.white, .rook⟩)
  else b2

theorem apply_eq (p : Spec.Position) (sm : Spec.SMove) (pc : Spec.Piece) (h : Spec.at_ p sm.src = some pc) :
    Spec.apply p sm =
      { board := specBoard p sm pc, white := !p.white,
        wk := p.wk && !(sm.src == 60 || sm.dst == 60) && !(sm.src == 63 || sm.dst == 63),
        wq := p.wq && !(sm.src == 60 || sm.dst == 60) && !(sm.src == 56 || sm.dst == 56),
        bk := p.bk && !(sm.src == 4 || sm.dst == 4) && !(sm.src == 7 || sm.dst == 7),
        bq := p.bq && !(sm.src == 4 || sm.dst == 4) && !(sm.src == 0 || sm.dst == 0),
        ep := if (pc.kind == .pawn && (sm.dst == sm.src + 16 || sm.dst + 16 == sm.src)) then some ((sm.src + sm.dst) / 2) else none,
        half := if pc.kind == .pawn || Spec.isCapture p sm then 0 else p.half + 1,
        full := if p.white then p.full else p.full + 1 } := by
  unfold Spec.apply
  rw [h]
  rfl

/-- the en-passant square a double push leaves behind, one row behind the target, is the rules' midpoint of the move -/
theorem dpush_mid (w : Bool) (f t : Nat) (hf : f < 64) (ht : t < 64) (hw : w = true → t + 16 = f) (hb : w = false → f + 16 = t) :
    (if (if w then t + 8 else t - 8) == SQNONE then none else some (if w then t + 8 else t - 8)) = some ((f + t) / 2) := by
  have hS : SQNONE = 64 := rfl
  cases w
  · have := hb rfl
    simp only [Bool.false_eq_true, if_false]
    rw [if_neg (by rw [beq_iff_eq]; omega)]; congr 1; omega
  · have := hw rfl
    simp only [if_true]
    rw [if_neg (by rw [beq_iff_eq]; omega)]; congr 1; omega

section bridge
variable {g : Game} {b : Board} {m : Move}

theorem abs_src (wf : Wf g b) (fits : MoveFits b g.white m) : Spec.at_ (Spec.abs g) m.fromSq = some (pieceOf m.piece) := by
  rw [abs_at wf _ fits.fromLt, fits.src]; rfl

theorem spec_isEnPassant (wf : Wf g b) (fits : MoveFits b g.white m) (flags : FlagsTrue b g.white g.ep m) :
    Spec.isEnPassant (Spec.abs g) (smove m) = m.isEnpassant := by
  refine Bool.eq_iff_iff.2 ((isEnPassant_of_src _ m (ownP_lt fits.piece) (abs_src wf fits)).trans ?_)
  rw [flags.epIff, ownP_kind fits.piece WP (by decide), abs_ep g _ fits.toLt, abs_occupiedIn wf _ fits.toLt]
  cases b m.toSq <;> simp

theorem spec_isCastle (wf : Wf g b) (fits : MoveFits b g.white m) (flags : FlagsTrue b g.white g.ep m) :
    Spec.isCastle (Spec.abs g) (smove m) = m.isCastling := by
  refine Bool.eq_iff_iff.2 ((isCastle_of_src _ m (ownP_lt fits.piece) (abs_src wf fits)).trans ?_)
  rw [flags.castleIff, ownP_kind fits.piece WK (by decide)]

theorem spec_isCapture (wf : Wf g b) (fits : MoveFits b g.white m) (flags : FlagsTrue b g.white g.ep m) :
    Spec.isCapture (Spec.abs g) (smove m) = m.isCapture := by
  unfold Spec.isCapture
  rw [spec_isEnPassant wf fits flags]
  rw [show (smove m).dst = m.toSq from rfl, abs_occupiedIn wf _ fits.toLt]
  cases hc : m.isCapture
  · rw [fits.quiet hc, fits.ep_cap hc]; rfl
  · cases he : m.isEnpassant
    · obtain ⟨v, hv, _⟩ := fits.cap hc he
      rw [hv]; rfl
    · simp

theorem specBoard_holds (wf : Wf g b) (fits : MoveFits b g.white m) (flags : FlagsTrue b g.white g.ep m) :
    Holds (specBoard (Spec.abs g) (smove m) (pieceOf m.piece)) (applyB b g.white m) := by
  have hfl := fits.fromLt
  have htl := fits.toLt
  unfold specBoard
  rw [spec_isEnPassant wf fits flags, spec_isCastle wf fits flags]
  simp only [show (smove m).src = m.fromSq from rfl, show (smove m).dst = m.toSq from rfl]
  have H0 := abs_holds wf
  have H1 : Holds (Spec.setSq (Spec.abs g).board m.fromSq none) (b.set m.fromSq none) := H0.setSq m.fromSq hfl none
  have hplaced : (match (smove m).promo with | some k => (⟨(pieceOf m.piece).white, k⟩ : Spec.Piece) | none => pieceOf m.piece)
      = pieceOf (if m.promotion ≠ PNONE then m.promotion else m.piece) := by
    unfold smove
    by_cases hpr : m.promotion = PNONE
    · simp only [hpr, if_true, ne_eq, not_true_eq_false, if_false]
    · simp only [hpr, if_false, ne_eq, not_false_eq_true, if_true]
      rw [ownP_white fits.piece, ← ownP_white (fits.promo hpr).1]
      rfl
  rw [hplaced]
  have H2 : Holds (if m.isEnpassant = true then Spec.setSq (Spec.setSq (Spec.abs g).board m.fromSq none)
        (Spec.sqOf (Spec.fileOf m.toSq) (Spec.rowOf m.fromSq)) none else Spec.setSq (Spec.abs g).board m.fromSq none)
      (if m.isEnpassant then (b.set m.fromSq none).set (vsq g.white m.toSq) none else b.set m.fromSq none) := by
    by_cases he : m.isEnpassant = true
    · rw [if_pos he, if_pos he]
      obtain ⟨_, _, hlt, hge, _, _, _⟩ := fits.ep he
      obtain ⟨rw_, rb_⟩ := flags.epRow he
      have hv : Spec.sqOf (Spec.fileOf m.toSq) (Spec.rowOf m.fromSq) = vsq g.white m.toSq := by
        unfold Spec.sqOf Spec.fileOf Spec.rowOf vsq
        cases hw : g.white
        · have := rb_ hw; have := hge hw; simp only [Bool.false_eq_true, if_false]; omega
        · have := rw_ hw; have := hlt hw; simp only [if_true]; omega
      rw [hv]
      exact H1.setSq _ (fits.vsq_facts he).2.2.1 none
    · rw [if_neg he, if_neg he]; exact H1
  have H3 := H2.setSq m.toSq htl (some (if m.promotion ≠ PNONE then m.promotion else m.piece))
  unfold applyB
  by_cases hcs : m.isCastling = true
  · rw [if_pos hcs, if_pos hcs]
    obtain ⟨hpn, hc, r, rf, rt, hhop, _, _, _, _, hro, _⟩ := fits.castle hcs
    obtain ⟨hfrom, hpk⟩ := fits.castleFrom hcs
    have h2 := (flags.castleIff.1 hcs).2
    rw [hfrom] at h2
    obtain ⟨hr, hgt, hle⟩ := rookHop_spec g.white m.toSq r rf rt hhop hro h2
    obtain ⟨_, _, _, _, hrfl, hrtl⟩ := rookHop_ne hhop
    have hwk := ownP_white fits.piece
    rw [hhop]
    rw [hwk, ← hr]
    by_cases hd : m.toSq > m.fromSq
    · rw [if_pos hd]
      obtain ⟨e1, e2⟩ := hgt (by rw [← hfrom]; exact hd)
      rw [← hfrom] at e1 e2
      rw [← e1, ← e2]
      exact (H3.setSq rf hrfl none).setSq rt hrtl (some r)
    · rw [if_neg hd]
      obtain ⟨e1, e2⟩ := hle (by rw [← hfrom]; exact hd)
      rw [← hfrom] at e1 e2
      rw [← e1, ← e2]
      exact (H3.setSq rf hrfl none).setSq rt hrtl (some r)
  · rw [if_neg hcs, if_neg hcs]
    exact H3

/-- stated for the position `make_search_move` builds, whether or not the check test then accepts it -/
theorem apply_refines_force (wf : Wf g b) (fits : MoveFits b g.white m) (flags : FlagsTrue b g.white g.ep m)
    (hh : g.halfMoves < 255) (hfm : g.fullMoves < 65535) :
    Spec.abs (makeForce g m) = Spec.apply (Spec.abs g) (smove m) := by
  have wf' := makeForce_wf wf fits
  have hmeta := makeForce_meta g m
  simp only [Game.meta, Prod.mk.injEq] at hmeta
  obtain ⟨fw, fe, fc, ch, cf⟩ := hmeta
  generalize makeForce g m = g' at *
  have hp12 := ownP_lt fits.piece
  rw [apply_eq _ _ _ (abs_src wf fits)]
  have tb1 := rights_table_iff m.toSq fits.toLt
  have tb2 := rights_table_iff m.fromSq fits.fromLt
  have hpawn : ((pieceOf m.piece).kind == Spec.Kind.pawn) = (m.piece == WP || m.piece == BP) := by
    rw [Bool.eq_iff_iff, beq_iff_eq, pieceOf_pawn _ hp12, Bool.or_eq_true, beq_iff_eq, beq_iff_eq]
  have hpawnw : (m.piece == WP || m.piece == BP) = true ↔ m.piece = (if g.white then WP else BP) := by
    rw [Bool.or_eq_true, beq_iff_eq, beq_iff_eq]; exact ownP_kind fits.piece WP (by decide)
  apply Spec.Position.ext_fields
  · exact Holds.ext (abs_holds wf') (specBoard_holds wf fits flags)
  · exact fw
  · show (g'.castling &&& 2 ^ 0 != 0) = _
    rw [fc]; exact right_after g.castling 0 m.fromSq m.toSq 60 63 tb1.1 tb2.1
  · show (g'.castling &&& 2 ^ 1 != 0) = _
    rw [fc]; exact right_after g.castling 1 m.fromSq m.toSq 60 56 tb1.2.1 tb2.2.1
  · show (g'.castling &&& 2 ^ 2 != 0) = _
    rw [fc]; exact right_after g.castling 2 m.fromSq m.toSq 4 7 tb1.2.2.1 tb2.2.2.1
  · show (g'.castling &&& 2 ^ 3 != 0) = _
    rw [fc]; exact right_after g.castling 3 m.fromSq m.toSq 4 0 tb1.2.2.2 tb2.2.2.2
  · show (if g'.ep == SQNONE then none else some g'.ep) =
      (if ((pieceOf m.piece).kind == Spec.Kind.pawn && (m.toSq == m.fromSq + 16 || m.toSq + 16 == m.fromSq)) then some ((m.fromSq + m.toSq) / 2) else none)
    rw [fe, hpawn]
    by_cases hdp : m.isDoublePush = true
    · obtain ⟨hpw, h16⟩ := flags.dpushIff.1 hdp
      obtain ⟨_, _, _, _, dw, db⟩ := fits.dpush hdp
      have c1 : (m.piece == WP || m.piece == BP) = true := hpawnw.2 hpw
      have c2 : (m.toSq == m.fromSq + 16 || m.toSq + 16 == m.fromSq) = true := by simpa using h16
      rw [hdp, c1, c2]
      exact dpush_mid g.white _ _ fits.fromLt fits.toLt (fun h => (dw h).1) (fun h => (db h).1)
    · have hdf : m.isDoublePush = false := by simpa using hdp
      rw [hdf]
      simp only [Bool.false_eq_true, if_false, beq_self_eq_true, if_true]
      rw [if_neg]
      intro h
      rw [Bool.and_eq_true] at h
      exact hdp (flags.dpushIff.2 ⟨hpawnw.1 h.1, by simpa using h.2⟩)
  · show g'.halfMoves = (if (pieceOf m.piece).kind == Spec.Kind.pawn || Spec.isCapture (Spec.abs g) (smove m) then 0 else g.halfMoves + 1)
    rw [ch, hpawn, spec_isCapture wf fits flags]
    split
    · rfl
    · omega
  · show g'.fullMoves = (if g.white then g.fullMoves else g.fullMoves + 1)
    rw [cf]
    split
    · rfl
    · omega

end bridge

/-- the clocks are `u8` / `u16` in the engine and unbounded in `Spec.apply`: hence the two bounds -/
theorem apply_refines {g g' : Game} {b : Board} {m : Move} (wf : Wf g b) (fits : MoveFits b g.white m)
    (flags : FlagsTrue b g.white g.ep m) (hmk : makeCore g m = some g') (hh : g.halfMoves < 255) (hfm : g.fullMoves < 65535) :
    Spec.abs g' = Spec.apply (Spec.abs g) (smove m) := by
  have := makeCore_some hmk
  subst this
  exact apply_refines_force wf fits flags hh hfm

end Jence
