/-
  Sliders: the bit-shift rays of `build.rs` (`rook_attacks_on_the_fly`, `bishop_attacks_on_the_fly`) are the
  coordinate walks of the rules (`Spec.slide`) for every square and every occupancy.
-/
import Jence.Lemmas.EdgeMask
import Jence.Lemmas.Squares
namespace Jence
open Jence

/-- `count` more steps in direction `(df, dr)` stay on the board, the one after that does not -/
def Room (df dr : Int) : Nat → Int → Int → Prop
  | 0, f, r => Spec.onBoard (f + df) (r + dr) = false
  | c + 1, f, r => Spec.onBoard (f + df) (r + dr) = true ∧ Room df dr c (f + df) (r + dr)

theorem walk_sq_lt (occ : Nat → Bool) (df dr : Int) : ∀ n f r, ∀ s ∈ Spec.walk occ df dr n f r, s < 64 := by
  intro n
  induction n with
  | zero => intro f r s hs; simp [Spec.walk] at hs
  | succ n ih =>
    intro f r s hs
    simp only [Spec.walk] at hs
    split at hs
    · rename_i hb
      have hlt := sqOf_lt _ _ hb
      split at hs
      · simp only [List.mem_singleton] at hs; rw [hs]; exact hlt
      · rcases List.mem_cons.mp hs with rfl | hs
        · exact hlt
        · exact ih _ _ s hs
    · simp at hs

/-- **one ray**: the shift loop collects exactly the squares of the coordinate walk -/
theorem ray_sim (sq0 : Nat) (hsq : sq0 < 64) (occ : UInt64) (up : Bool) (d : Nat) (hd : 1 ≤ d) (df dr : Int)
    (hdelta : (if up then -(d : Int) else (d : Int)) = 8 * dr + df) :
    ∀ (count k : Nat) (acc : UInt64) (f r : Int) (cur : Nat),
      Spec.onBoard f r = true → (cur : Int) = 8 * r + f → (if up then cur + d * k = sq0 else cur = sq0 + d * k) →
      Room df dr count f r → k + count ≤ 7 →
      ∀ t, t < 64 → getBit (rayWalk (bit sq0) occ up d count k acc) t =
        (getBit acc t || decide (t ∈ Spec.walk (getBit occ) df dr (7 - k) f r)) := by
  intro count
  induction count with
  | zero =>
    intro k acc f r cur hob hcur hrel hroom hk t ht
    simp only [rayWalk]
    have : Spec.walk (getBit occ) df dr (7 - k) f r = [] := by
      cases h7 : 7 - k with
      | zero => rfl
      | succ n => simp only [Spec.walk]; simp only [Room] at hroom; simp [hroom]
    rw [this]; simp
  | succ count ih =>
    intro k acc f r cur hob hcur hrel hroom hk t ht
    obtain ⟨hnext, hroom'⟩ := hroom
    have h7 : 7 - k = (7 - (k + 1)) + 1 := by omega
    rw [h7]
    simp only [rayWalk, Spec.walk, hnext, ↓reduceIte]
    have hob' := hnext
    rw [onBoard_iff] at hob hob'
    have hmul : d * (k + 1) = d * k + d := Nat.mul_succ d k
    have hcur' : ∃ cur' : Nat, cur' < 64 ∧ (cur' : Int) = 8 * (r + dr) + (f + df) ∧ Spec.sqOf (f + df) (r + dr) = cur' ∧
        (if up then cur' + d * (k + 1) = sq0 else cur' = sq0 + d * (k + 1)) := by
      refine ⟨(8 * (r + dr) + (f + df)).toNat, by omega, by omega, rfl, ?_⟩
      cases up
      · simp only [Bool.false_eq_true, ↓reduceIte] at hrel hdelta ⊢; omega
      · simp only [↓reduceIte] at hrel hdelta ⊢; omega
    obtain ⟨cur', hlt', hc', hsq', hrel'⟩ := hcur'
    have hb : (if up then bit sq0 >>> (d * (k + 1)).toUInt64 else bit sq0 <<< (d * (k + 1)).toUInt64) = bit cur' := by
      cases up
      · simp only [Bool.false_eq_true, ↓reduceIte] at hrel' ⊢
        rw [bit_shl sq0 hsq (d * (k + 1)) (by omega) (by omega)]; congr 1; omega
      · simp only [↓reduceIte] at hrel' ⊢
        rw [bit_shr sq0 hsq (d * (k + 1)) (by omega)]; congr 1; omega
    rw [hb, hsq']
    have hocc : ((occ &&& bit cur') != 0) = getBit occ cur' := rfl
    rw [hocc]
    by_cases hblock : getBit occ cur' = true
    · simp only [hblock, ↓reduceIte]
      rw [getBit_or _ _ _ ht, getBit_bit cur' t hlt' ht]
      simp only [List.mem_singleton, eq_comm (a := t)]
    · simp only [hblock, Bool.false_eq_true, ↓reduceIte]
      rw [ih (k + 1) (acc ||| bit cur') (f + df) (r + dr) cur' hnext hc' hrel' hroom' (by omega) t ht]
      rw [getBit_or _ _ _ ht, getBit_bit cur' t hlt' ht]
      simp only [List.mem_cons, Bool.or_assoc, Bool.decide_or, eq_comm (a := t)]

/-- the index arithmetic of a walk, whose `i`-th square is `f + (i + 1) * df`: one step on, and the first step -/
theorem shift_step (f df : Int) (i : Nat) : f + df + ((i + 1 : Nat) : Int) * df = f + ((i + 1 + 1 : Nat) : Int) * df := by
  rw [Int.natCast_add (i + 1) 1, Int.natCast_one, Int.add_mul, Int.one_mul]; omega

theorem one_step (f df : Int) : f + ((0 + 1 : Nat) : Int) * df = f + df := by
  rw [Nat.zero_add, Int.natCast_one, Int.one_mul]

theorem room_of (df dr : Int) : ∀ (c : Nat) (f r : Int),
    (∀ i : Nat, i < c → Spec.onBoard (f + ((i + 1 : Nat) : Int) * df) (r + ((i + 1 : Nat) : Int) * dr) = true) →
    Spec.onBoard (f + ((c + 1 : Nat) : Int) * df) (r + ((c + 1 : Nat) : Int) * dr) = false → Room df dr c f r := by
  intro c
  induction c with
  | zero =>
    intro f r _ hout
    rw [one_step, one_step] at hout
    exact hout
  | succ c ih =>
    intro f r hin hout
    have h0 := hin 0 (Nat.succ_pos c)
    rw [one_step, one_step] at h0
    refine ⟨h0, ih _ _ (fun i hi => ?_) ?_⟩
    · rw [shift_step, shift_step]; exact hin (i + 1) (Nat.succ_lt_succ hi)
    · rw [shift_step, shift_step]; exact hout

/-- in a square's own coordinates: linear goals for `omega` once the direction is a pair of numerals -/
theorem room_sq (sq : Nat) (df dr : Int) (c : Nat)
    (hin : ∀ i : Nat, i < c → 0 ≤ (sq % 8 : Int) + ((i + 1 : Nat) : Int) * df ∧ (sq % 8 : Int) + ((i + 1 : Nat) : Int) * df ≤ 7 ∧
      0 ≤ (sq / 8 : Int) + ((i + 1 : Nat) : Int) * dr ∧ (sq / 8 : Int) + ((i + 1 : Nat) : Int) * dr ≤ 7)
    (hout : ¬ (0 ≤ (sq % 8 : Int) + ((c + 1 : Nat) : Int) * df ∧ (sq % 8 : Int) + ((c + 1 : Nat) : Int) * df ≤ 7 ∧
      0 ≤ (sq / 8 : Int) + ((c + 1 : Nat) : Int) * dr ∧ (sq / 8 : Int) + ((c + 1 : Nat) : Int) * dr ≤ 7)) :
    Room df dr c (Spec.fileOf sq) (Spec.rowOf sq) :=
  room_of df dr c _ _ (fun i hi => (onBoard_iff _ _).2 (hin i hi)) (by rw [← Bool.not_eq_true, onBoard_iff]; exact hout)

theorem mem_slide {occ : Nat → Bool} {s : Nat} {dirs : List (Int × Int)} {t : Nat} :
    t ∈ Spec.slide occ s dirs ↔ ∃ d ∈ dirs, t ∈ Spec.walk occ d.1 d.2 7 (Spec.fileOf s) (Spec.rowOf s) := by
  simp only [Spec.slide, List.mem_flatMap]

theorem slide_lt (occ : Nat → Bool) (s : Nat) (dirs : List (Int × Int)) : ∀ t ∈ Spec.slide occ s dirs, t < 64 := by
  intro t ht
  obtain ⟨d, _, ht⟩ := mem_slide.1 ht
  exact walk_sq_lt _ _ _ _ _ _ t ht

/-- the ray `r` of the shift loops from `sq` runs along the rules' direction `d`: its stride is `d` in square numbers,
    its count the distance to the edge -/
def RayDir (sq : Nat) (r : Ray) (d : Int × Int) : Prop :=
  1 ≤ r.2.1 ∧ (if r.1 then -(r.2.1 : Int) else (r.2.1 : Int)) = 8 * d.2 + d.1 ∧
  Room d.1 d.2 r.2.2 (Spec.fileOf sq) (Spec.rowOf sq) ∧ r.2.2 ≤ 7

theorem walkRays_sim (sq : Nat) (hsq : sq < 64) (occ : UInt64) (t : Nat) (ht : t < 64) :
    ∀ (rd : List (Ray × (Int × Int))), (∀ p ∈ rd, RayDir sq p.1 p.2) → ∀ acc,
      getBit (walkRays (bit sq) occ (rd.map (·.1)) acc) t =
        (getBit acc t || decide (t ∈ Spec.slide (getBit occ) sq (rd.map (·.2)))) := by
  intro rd
  induction rd with
  | nil => intro _ acc; simp [walkRays, Spec.slide]
  | cons p rd ih =>
    intro h acc
    obtain ⟨hd, hdelta, hroom, h7⟩ := h p (List.mem_cons_self ..)
    rw [List.map_cons, walkRays_cons, ih (fun q hq => h q (List.mem_cons_of_mem _ hq)),
      ray_sim sq hsq occ p.1.1 p.1.2.1 hd p.2.1 p.2.2 hdelta p.1.2.2 0 acc _ _ sq (onBoard_sq sq hsq)
      (by simp only [Spec.rowOf, Spec.fileOf]; omega) (by simp) hroom (by omega) t ht]
    rw [Bool.or_assoc, ← Bool.decide_or]
    congr 1
    exact decide_eq_decide.2 (by simp only [Spec.slide, List.map_cons, List.flatMap_cons, List.mem_append, Nat.sub_zero])

/-- **a slider's shift loops are the rules' walks**, in whatever order the directions are listed -/
theorem slider_eq_slide (sq : Nat) (hsq : sq < 64) (occ : UInt64) (rd : List (Ray × (Int × Int))) (dirs : List (Int × Int))
    (h : ∀ p ∈ rd, RayDir sq p.1 p.2) (hp : (rd.map (·.2)).Perm dirs) :
    walkRays (bit sq) occ (rd.map (·.1)) 0 = Spec.toBits (Spec.slide (getBit occ) sq dirs) := by
  apply ext_getBit
  intro t ht
  rw [walkRays_sim sq hsq occ t ht rd h, getBit_zero t ht, getBit_toBits _ t (slide_lt _ _ _) ht, Bool.false_or]
  apply decide_eq_decide.2
  rw [mem_slide, mem_slide]
  exact ⟨fun ⟨d, hd, hw⟩ => ⟨d, hp.mem_iff.1 hd, hw⟩, fun ⟨d, hd, hw⟩ => ⟨d, hp.mem_iff.2 hd, hw⟩⟩

/-- **T15.3 (rook)** for every square and every set of occupied squares, `rook_attacks_on_the_fly` is the set of squares
    reached by sliding along the file and the rank up to and including the first occupied square -/
theorem rookOnTheFly_eq_slide (sq : Nat) (hsq : sq < 64) (occ : UInt64) :
    rookAttacksOnTheFly sq occ = Spec.slideRook sq occ := by
  refine slider_eq_slide sq hsq occ ((rookRays sq).zip [(-1, 0), (1, 0), (0, -1), (0, 1)])
    Spec.rookDirs ?_ (by show List.Perm [(-1, 0), (1, 0), (0, -1), (0, 1)] _; decide)
  simp only [rookRays, List.zip_cons_cons, List.zip_nil_right, List.forall_mem_cons, RayDir]
  exact ⟨⟨by decide, by decide, room_sq sq _ _ _ (fun i hi => by omega) (by omega), by omega⟩, ⟨by decide, by decide, room_sq sq _ _ _ (fun i hi => by omega) (by omega), by omega⟩,
    ⟨by decide, by decide, room_sq sq _ _ _ (fun i hi => by omega) (by omega), by omega⟩, ⟨by decide, by decide, room_sq sq _ _ _ (fun i hi => by omega) (by omega), by omega⟩, by simp⟩

/-- **T15.3 (bishop)** the same along the two diagonals -/
theorem bishopOnTheFly_eq_slide (sq : Nat) (hsq : sq < 64) (occ : UInt64) :
    bishopAttacksOnTheFly sq occ = Spec.slideBishop sq occ := by
  refine slider_eq_slide sq hsq occ ((bishopRays sq).zip [(1, 1), (-1, 1), (-1, -1), (1, -1)])
    Spec.bishopDirs ?_ (by show List.Perm [(1, 1), (-1, 1), (-1, -1), (1, -1)] _; decide)
  simp only [bishopRays, List.zip_cons_cons, List.zip_nil_right, List.forall_mem_cons, RayDir]
  exact ⟨⟨by decide, by decide, room_sq sq _ _ _ (fun i hi => by omega) (by omega), by omega⟩, ⟨by decide, by decide, room_sq sq _ _ _ (fun i hi => by omega) (by omega), by omega⟩,
    ⟨by decide, by decide, room_sq sq _ _ _ (fun i hi => by omega) (by omega), by omega⟩, ⟨by decide, by decide, room_sq sq _ _ _ (fun i hi => by omega) (by omega), by omega⟩, by simp⟩

end Jence
