/-
  The attack lookups against the rules. `attacksOf occ X f` (what `generate_moves` and `is_square_attacked` look up for
  piece `X` on `f`) holds exactly the squares of `Spec.attackedFrom` (`attacksOf_spec`); everything else is then said of
  `Spec.attackedFrom`, where the six kinds are two: a fixed list of jumps, or a slide along some of the queen's lines.
  `is_square_attacked` is a reverse lookup: it finds exactly the attackers because the rules' attack relation is symmetric
  up to the colour. Between two positions with the same attackers whose occupancies agree off a set of squares, an attack
  on a square of the set carries over to the first square of the set on its line (`attack_transfer`).
-/
import Jence.Lemmas.GenMem
import Jence.Lemmas.AttackSym
import Jence.Lemmas.Board
import Jence.Spec.Oracle
namespace Jence
open Jence

theorem attacksOf_spec (occ : UInt64) (X f t : Nat) (hX : X < 12) (hf : f < 64) (ht : t < 64) :
    getBit (attacksOf occ X f) t = true ↔ t ∈ Spec.attackedFrom (getBit occ) (pieceOf X) f := by
  obtain ⟨t0, t6, t1, t7, t2, t8, t3, t9, t4, t10, t5, t11⟩ := attacksOf_table occ f
  have hcases : X = 0 ∨ X = 1 ∨ X = 2 ∨ X = 3 ∨ X = 4 ∨ X = 5 ∨ X = 6 ∨ X = 7 ∨ X = 8 ∨ X = 9 ∨ X = 10 ∨ X = 11 := by omega
  rcases hcases with h | h | h | h | h | h | h | h | h | h | h | h <;> subst h
  · rw [t0]; exact (pawn_isLeaper true).mem f t hf ht
  · rw [t1]; exact knight_isLeaper.mem f t hf ht
  · rw [t2]; exact bishop_isSlider.mem f t hf ht occ
  · rw [t3]; exact rook_isSlider.mem f t hf ht occ
  · rw [t4]; exact queen_isSlider.mem f t hf ht occ
  · rw [t5]; exact king_isLeaper.mem f t hf ht
  · rw [t6]; exact (pawn_isLeaper false).mem f t hf ht
  · rw [t7]; exact knight_isLeaper.mem f t hf ht
  · rw [t8]; exact bishop_isSlider.mem f t hf ht occ
  · rw [t9]; exact rook_isSlider.mem f t hf ht occ
  · rw [t10]; exact queen_isSlider.mem f t hf ht occ
  · rw [t11]; exact king_isLeaper.mem f t hf ht

/-- **the six kinds, once**: jumps (the list depends on the colour only for the pawn, whose two lists are each other's
    negatives) or a slide along some of the queen's lines. Colour, occupancy and square are quantified inside: the
    witnesses do not depend on them, which is what `attackedFrom_symm` needs. -/
theorem attackedFrom_class (k : Spec.Kind) :
    (∃ offs : Bool → List (Int × Int), (∀ w, (offs w).Nodup) ∧ (∀ w, ∀ d ∈ offs w, (-d.1, -d.2) ∈ offs (!w)) ∧
      ∀ w occ s, Spec.attackedFrom occ ⟨w, k⟩ s = Spec.jumps s (offs w)) ∨
    ∃ dirs, dirs.Nodup ∧ (∀ d ∈ dirs, d ∈ Spec.rookDirs ++ Spec.bishopDirs) ∧ (∀ d ∈ dirs, (-d.1, -d.2) ∈ dirs) ∧
      ∀ w occ s, Spec.attackedFrom occ ⟨w, k⟩ s = Spec.slide occ s dirs := by
  cases k
  · exact Or.inl ⟨fun w => if w then [(-1, -1), (1, -1)] else [(-1, 1), (1, 1)], by decide, by decide, fun _ _ _ => rfl⟩
  · exact Or.inl ⟨fun _ => Spec.knightJumps, by decide, by decide, fun _ _ _ => rfl⟩
  · exact Or.inr ⟨Spec.bishopDirs, by decide, by decide, by decide, fun _ _ _ => rfl⟩
  · exact Or.inr ⟨Spec.rookDirs, by decide, by decide, by decide, fun _ _ _ => rfl⟩
  · exact Or.inr ⟨Spec.rookDirs ++ Spec.bishopDirs, by decide, by decide, by decide, fun _ _ _ => rfl⟩
  · exact Or.inl ⟨fun _ => Spec.kingSteps, by decide, by decide, fun _ _ _ => rfl⟩

theorem attackedFrom_lt (occ : Nat → Bool) (pc : Spec.Piece) (s : Nat) : ∀ t ∈ Spec.attackedFrom occ pc s, t < 64 := by
  intro t ht
  rcases attackedFrom_class pc.kind with ⟨_, _, _, hc⟩ | ⟨_, _, _, _, hc⟩
  · rw [hc pc.white] at ht; exact jumps_lt _ _ t ht
  · rw [hc pc.white] at ht; exact slide_lt _ _ _ t ht

section agree
variable (occ1 occ2 : Nat → Bool)

theorem walk_congr (h : ∀ s, s < 64 → occ1 s = occ2 s) (df dr : Int) : ∀ n f r,
    Spec.walk occ1 df dr n f r = Spec.walk occ2 df dr n f r := by
  intro n
  induction n with
  | zero => intro f r; rfl
  | succ n ih =>
    intro f r
    simp only [Spec.walk]
    split
    · rename_i hb
      have hlt := sqOf_lt _ _ hb
      rw [h _ hlt, ih]
    · rfl

theorem attackedFrom_congr (h : ∀ s, s < 64 → occ1 s = occ2 s) (pc : Spec.Piece) (sq : Nat) :
    Spec.attackedFrom occ1 pc sq = Spec.attackedFrom occ2 pc sq := by
  rcases attackedFrom_class pc.kind with ⟨_, _, _, hc⟩ | ⟨_, _, _, _, hc⟩
  · rw [hc pc.white, hc pc.white]
  · rw [hc pc.white, hc pc.white]
    exact List.flatMap_congr' fun d _ => walk_congr occ1 occ2 h _ _ _ _ _

end agree

theorem attackedFrom_symm (occ : Nat → Bool) (w : Bool) (k : Spec.Kind) (s t : Nat) (hs : s < 64)
    (h : t ∈ Spec.attackedFrom occ ⟨w, k⟩ s) : s ∈ Spec.attackedFrom occ ⟨!w, k⟩ t := by
  rcases attackedFrom_class k with ⟨offs, _, hneg, hc⟩ | ⟨dirs, _, _, hneg, hc⟩
  · rw [hc] at h ⊢; exact jumps_symm _ _ (hneg w) s t hs h
  · rw [hc] at h ⊢; exact slide_symm occ dirs hneg s t hs h

theorem attacksOf_symm (occ : UInt64) (w : Bool) (k f sq : Nat) (hk : k < 6) (hf : f < 64) (hsq : sq < 64) :
    getBit (attacksOf occ (k + sideOff w) f) sq = getBit (attacksOf occ (k + sideOff (!w)) sq) f := by
  have h12 : ∀ w, k + sideOff w < 12 := fun w => by unfold sideOff; split <;> omega
  rw [Bool.eq_iff_iff, attacksOf_spec occ _ f sq (h12 w) hf hsq, attacksOf_spec occ _ sq f (h12 (!w)) hsq hf,
    pieceOf_side w k hk, pieceOf_side (!w) k hk]
  refine ⟨attackedFrom_symm _ w _ f sq hf, fun h => ?_⟩
  have := attackedFrom_symm _ (!w) _ sq f hsq h
  rwa [Bool.not_not] at this

section reverse
variable (g : Game) (sq : Nat)

/-- kind by kind: the attack set that the *other* colour's piece of that kind would have on `sq`, against the attacker's
    pieces of that kind -/
theorem isSquareAttacked_eq (w : Bool) : isSquareAttacked g sq w =
    [WP, WN, WK, WR, WB, WQ].any fun k => !isEmpty (attacksOf g.allOcc (k + sideOff (!w)) sq &&& g.bb (k + sideOff w)) := by
  obtain ⟨u0, u6, u1, u7, u2, u8, u3, u9, u4, u10, u5, u11⟩ := attacksOf_table g.allOcc sq
  unfold isSquareAttacked
  simp only [List.any_cons, List.any_nil, Bool.or_false, Bool.or_assoc]
  cases w
  · rw [← u0, ← u1, ← u2, ← u3, ← u4, ← u5]; rfl
  · rw [← u6, ← u7, ← u8, ← u9, ← u10, ← u11]; rfl

theorem isSquareAttacked_iff (w : Bool) : isSquareAttacked g sq w = true ↔
    ∃ k, k < 6 ∧ (!isEmpty (attacksOf g.allOcc (k + sideOff (!w)) sq &&& g.bb (k + sideOff w))) = true := by
  rw [isSquareAttacked_eq, List.any_eq_true]
  -- the six kinds, in the order `is_square_attacked` asks for them, are the indices below 6
  have mem6 : ∀ k, k ∈ [WP, WN, WK, WR, WB, WQ] ↔ k < 6 := fun k => by
    simp only [List.mem_cons, List.not_mem_nil, or_false, WP, WN, WK, WR, WB, WQ]
    omega
  exact exists_congr fun k => and_congr_left fun _ => mem6 k

theorem attacked_of_attacker (f X : Nat) (hsq : sq < 64) (hf : f < 64) (byWhite : Bool)
    (hX : ownP byWhite X) (hbit : getBit (g.bb X) f = true) (hatt : getBit (attacksOf g.allOcc X f) sq = true) :
    isSquareAttacked g sq byWhite = true := by
  obtain ⟨k, hk, rfl⟩ := (ownP_iff _ _).1 hX
  rw [attacksOf_symm _ _ _ _ _ hk hf hsq] at hatt
  exact (isSquareAttacked_iff g sq byWhite).2 ⟨k, hk, (not_isEmpty_and_iff _ _).2 ⟨f, hf, hatt, hbit⟩⟩

theorem attacker_of_attacked (hsq : sq < 64) (byWhite : Bool) (h : isSquareAttacked g sq byWhite = true) :
    ∃ X f, ownP byWhite X ∧ f < 64 ∧ getBit (g.bb X) f = true ∧ getBit (attacksOf g.allOcc X f) sq = true := by
  obtain ⟨k, hk, h⟩ := (isSquareAttacked_iff g sq byWhite).1 h
  obtain ⟨f, hf, ha, hb⟩ := (not_isEmpty_and_iff _ _).1 h
  exact ⟨k + sideOff byWhite, f, (ownP_iff _ _).2 ⟨k, hk, rfl⟩, hf, hb, by rw [attacksOf_symm _ _ _ _ _ hk hf hsq]; exact ha⟩

end reverse

theorem isInCheck_eq (g : Game) (w : Bool) :
    isInCheck g w = isSquareAttacked g (tzcnt (g.bb (if w then WK else BK))) (!w) := by
  unfold isInCheck
  cases w
  · simp only [Bool.false_eq_true, if_false, Bool.not_false]
  · simp only [if_true, Bool.not_true]

theorem tzcnt_piece {bbs : Array UInt64} {b : Board} (hrep : Rep bbs b none) {K k : Nat} (hK : K < 12) (hk : k < 64)
    (hbk : b k = some K) (hu : ∀ t, t < 64 → b t = some K → t = k) : tzcnt (bbs.getD K 0) = k :=
  tzcnt_single _ k hk (by rw [rep_bit bbs b hrep K k hK hk, hbk]; simp)
    (fun t ht h => hu t ht (by rw [rep_bit bbs b hrep K t hK ht] at h; simpa using h))

/-- walking along a line in two occupancies that agree off a set `S`: whatever the walk in `A` reaches inside `S`, the
    walk in `B` reaches something inside `S` too (the first square of `S` on the line) -/
theorem first_hit (occA occB S : Nat → Bool) (hagree : ∀ t, t < 64 → S t = false → occA t = false → occB t = false)
    (df dr : Int) : ∀ (n : Nat) (f r : Int) (k : Nat), k ∈ Spec.walk occA df dr n f r → S k = true →
      ∃ k', S k' = true ∧ k' ∈ Spec.walk occB df dr n f r := by
  intro n
  induction n with
  | zero => intro f r k hk; simp [Spec.walk] at hk
  | succ n ih =>
    intro f r k hk hS
    simp only [Spec.walk] at hk ⊢
    by_cases hb : Spec.onBoard (f + df) (r + dr) = true
    · rw [if_pos hb] at hk ⊢
      have hlt := sqOf_lt _ _ hb
      cases hSs : S (Spec.sqOf (f + df) (r + dr))
      · have hne : k ≠ Spec.sqOf (f + df) (r + dr) := by intro h; rw [h, hSs] at hS; exact absurd hS (by simp)
        cases hoA : occA (Spec.sqOf (f + df) (r + dr))
        · rw [hoA] at hk
          simp only [Bool.false_eq_true, if_false, List.mem_cons] at hk
          rcases hk with hk | hk
          · exact absurd hk hne
          · obtain ⟨k', hk'S, hk'⟩ := ih _ _ k hk hS
            rw [hagree _ hlt hSs hoA]
            exact ⟨k', hk'S, by simp only [Bool.false_eq_true, if_false]; exact List.mem_cons_of_mem _ hk'⟩
        · rw [hoA] at hk
          simp only [if_true, List.mem_singleton] at hk
          exact absurd hk hne
      · refine ⟨_, hSs, ?_⟩
        split
        · exact List.mem_singleton.2 rfl
        · exact List.mem_cons_self
    · rw [if_neg hb] at hk; exact absurd hk (by simp)

theorem first_hit_attacks (occA occB : UInt64) (S : Nat → Bool)
    (hagree : ∀ t, t < 64 → S t = false → getBit occA t = false → getBit occB t = false)
    (X f k : Nat) (hX : X < 12) (hf : f < 64) (hk : k < 64) (h : getBit (attacksOf occA X f) k = true) (hS : S k = true) :
    ∃ k', k' < 64 ∧ S k' = true ∧ getBit (attacksOf occB X f) k' = true := by
  rw [attacksOf_spec occA X f k hX hf hk] at h
  rcases attackedFrom_class (pieceOf X).kind with ⟨_, _, _, hc⟩ | ⟨dirs, _, _, _, hc⟩
  · exact ⟨k, hk, hS, (attacksOf_spec occB X f k hX hf hk).2 (by rw [hc (pieceOf X).white] at h ⊢; exact h)⟩
  · rw [hc (pieceOf X).white] at h
    obtain ⟨d, hd, h⟩ := mem_slide.1 h
    obtain ⟨k', h1, h2⟩ := first_hit _ _ S hagree d.1 d.2 _ _ _ k h hS
    have h2 := mem_slide.2 ⟨d, hd, h2⟩
    have hk' := slide_lt _ _ _ k' h2
    exact ⟨k', hk', h1, (attacksOf_spec occB X f k' hX hf hk').2 (by rw [hc (pieceOf X).white]; exact h2)⟩

theorem attack_transfer (gA gB : Game) (k : Nat) (hk : k < 64) (by_ : Bool) (S : Nat → Bool)
    (hsets : ∀ X f, ownP by_ X → f < 64 → getBit (gA.bb X) f = true → getBit (gB.bb X) f = true)
    (hocc : ∀ t, t < 64 → S t = false → getBit gA.allOcc t = false → getBit gB.allOcc t = false)
    (hS : S k = true) (h : isSquareAttacked gA k by_ = true) :
    ∃ k', k' < 64 ∧ S k' = true ∧ isSquareAttacked gB k' by_ = true := by
  obtain ⟨X, f, hX, hf, hbit, hatt⟩ := attacker_of_attacked gA k hk by_ h
  obtain ⟨k', hk', hS', hatt'⟩ := first_hit_attacks gA.allOcc gB.allOcc S hocc X f k (ownP_lt hX) hf hk hatt hS
  exact ⟨k', hk', hS', attacked_of_attacker gB k' f X hk' hf by_ hX (hsets X f hX hf hbit) hatt'⟩

theorem attack_transfer_board {gA gB : Game} {bA bB : Board} (rA : Rep gA.bbs bA none) (rB : Rep gB.bbs bB none)
    (k : Nat) (hk : k < 64) (by_ : Bool) (S : Nat → Bool)
    (hkeep : ∀ f X, ownP by_ X → bA f = some X → bB f = some X)
    (hocc : ∀ t, t < 64 → S t = false → getBit gA.allOcc t = false → getBit gB.allOcc t = false)
    (hS : S k = true) (h : isSquareAttacked gA k by_ = true) :
    ∃ k', k' < 64 ∧ S k' = true ∧ isSquareAttacked gB k' by_ = true :=
  attack_transfer gA gB k hk by_ S (fun X f hX hf hbit =>
    (rep_bit_iff rB (ownP_lt hX) hf).2 (hkeep f X hX ((rep_bit_iff rA (ownP_lt hX) hf).1 hbit))) hocc hS h

end Jence
