/-
  What membership in a walk says (`mem_walk`), and two things read off it. The attack relation is symmetric: `t` is
  reached from `s` along a line iff `s` is reached from `t` along it, for the same occupied squares (both say: same line,
  nothing strictly between); for leapers the jump back is in the list. This is what makes the reverse lookup of
  `is_square_attacked` (attack set *from the target square* against the piece sets) say the same as the forward lookup
  of `generate_moves`. And a slide along distinct lines meets no square twice.
-/
import Jence.Lemmas.Sliders
import Jence.Lemmas.Leapers
namespace Jence
open Jence

/-- membership in a coordinate walk: `j + 1` steps, all on the board, none of the earlier squares occupied -/
theorem mem_walk (occ : Nat → Bool) (df dr : Int) : ∀ (n : Nat) (f r : Int) (t : Nat),
    t ∈ Spec.walk occ df dr n f r ↔
      ∃ j : Nat, j < n ∧ (∀ i : Nat, i ≤ j → Spec.onBoard (f + ((i + 1 : Nat) : Int) * df) (r + ((i + 1 : Nat) : Int) * dr) = true) ∧
        (∀ i : Nat, i < j → occ (Spec.sqOf (f + ((i + 1 : Nat) : Int) * df) (r + ((i + 1 : Nat) : Int) * dr)) = false) ∧
        t = Spec.sqOf (f + ((j + 1 : Nat) : Int) * df) (r + ((j + 1 : Nat) : Int) * dr) := by
  intro n
  induction n with
  | zero =>
    intro f r t
    simp only [Spec.walk, List.not_mem_nil, false_iff]
    rintro ⟨j, h1, _⟩; omega
  | succ n ih =>
    intro f r t
    -- the witness is the first step, or a later one: then the first square is free and the rest is a walk from it
    rw [Nat.exists_lt_succ_left]
    simp only [forall_le_succ, Nat.forall_lt_succ_left, Nat.le_zero, Nat.not_lt_zero, forall_eq, false_imp_iff, implies_true,
      true_and, one_step, ← shift_step]
    simp only [Spec.walk]
    by_cases hb : Spec.onBoard (f + df) (r + dr) = true
    · by_cases ho : occ (Spec.sqOf (f + df) (r + dr)) = true
      · simp [hb, ho]
      · simp [hb, ho, ih (f + df) (r + dr) t]
    · simp [hb]

private theorem rev_step (f df : Int) (j i : Nat) (h : i < j) :
    f + ((j + 1 : Nat) : Int) * df + ((i + 1 : Nat) : Int) * (-df) = f + ((j - i - 1 + 1 : Nat) : Int) * df := by
  have e : ((j + 1 : Nat) : Int) = ((j - i - 1 + 1 : Nat) : Int) + ((i + 1 : Nat) : Int) := by omega
  rw [e, Int.add_mul, Int.mul_neg]; omega

private theorem rev_last (f df : Int) (j : Nat) : f + ((j + 1 : Nat) : Int) * df + ((j + 1 : Nat) : Int) * (-df) = f := by
  rw [Int.mul_neg]; omega

theorem dir_sign (d : Int × Int) (hd : d ∈ Spec.rookDirs ++ Spec.bishopDirs) (j : Nat) :
    (Int.sign (((j + 1 : Nat) : Int) * d.1), Int.sign (((j + 1 : Nat) : Int) * d.2)) = d := by
  rw [Int.sign_mul, Int.sign_mul, Int.sign_natCast_of_ne_zero (Nat.succ_ne_zero j), Int.one_mul, Int.one_mul]
  simp only [Spec.rookDirs, Spec.bishopDirs, List.cons_append, List.nil_append, List.mem_cons, List.not_mem_nil, or_false] at hd
  rcases hd with rfl | rfl | rfl | rfl | rfl | rfl | rfl | rfl <;> rfl

section walks
variable (occ : Nat → Bool)

theorem walk_symm (df dr : Int) (s t : Nat) (hs : s < 64)
    (h : t ∈ Spec.walk occ df dr 7 (Spec.fileOf s) (Spec.rowOf s)) :
    s ∈ Spec.walk occ (-df) (-dr) 7 (Spec.fileOf t) (Spec.rowOf t) := by
  rw [mem_walk] at h ⊢
  obtain ⟨j, hj, hon, hoc, ht⟩ := h
  obtain ⟨eft, ert⟩ := file_row_sqOf _ _ (hon j (Nat.le_refl j))
  rw [← ht] at eft ert
  refine ⟨j, hj, ?_, ?_, ?_⟩
  · intro i hi
    rw [eft, ert]
    by_cases hij : i = j
    · subst hij; rw [rev_last, rev_last]; exact onBoard_sq s hs
    · rw [rev_step _ _ j i (by omega), rev_step _ _ j i (by omega)]; exact hon (j - i - 1) (by omega)
  · intro i hi
    rw [eft, ert, rev_step _ _ j i hi, rev_step _ _ j i hi]; exact hoc (j - i - 1) (by omega)
  · rw [eft, ert, rev_last, rev_last, sqOf_file_row]

theorem slide_symm (dirs : List (Int × Int)) (hneg : ∀ d ∈ dirs, (-d.1, -d.2) ∈ dirs) (s t : Nat) (hs : s < 64)
    (h : t ∈ Spec.slide occ s dirs) : s ∈ Spec.slide occ t dirs := by
  obtain ⟨d, hd, h⟩ := mem_slide.1 h
  exact mem_slide.2 ⟨(-d.1, -d.2), hneg d hd, walk_symm occ d.1 d.2 s t hs h⟩

theorem walk_nodup (d : Int × Int) (hd : d ∈ Spec.rookDirs ++ Spec.bishopDirs) : ∀ (n : Nat) (f r : Int), Spec.onBoard f r = true →
    (Spec.walk occ d.1 d.2 n f r).Nodup := by
  intro n
  induction n with
  | zero => intro f r _; simp [Spec.walk]
  | succ n ih =>
    intro f r hb0
    simp only [Spec.walk]
    split
    · rename_i hb
      split
      · simp
      · rw [List.nodup_cons]
        refine ⟨?_, ih _ _ hb⟩
        intro hmem
        rw [mem_walk] at hmem
        obtain ⟨j, _, hon, _, heq⟩ := hmem
        obtain ⟨e1, e2⟩ := sqOf_inj _ _ _ _ hb (hon j (Nat.le_refl j)) heq
        -- the square would be its own `j + 1`-th successor; but a direction is the pair of signs of its multiple
        have z1 : ((j + 1 : Nat) : Int) * d.1 = 0 := by omega
        have z2 : ((j + 1 : Nat) : Int) * d.2 = 0 := by omega
        have hz := dir_sign d hd j
        rw [z1, z2] at hz
        rw [← hz] at hd
        exact absurd hd (by decide)
    · simp

theorem slide_nodup (sq : Nat) (hsq : sq < 64) (dirs : List (Int × Int)) (hdirs : dirs.Nodup)
    (hsub : ∀ d ∈ dirs, d ∈ Spec.rookDirs ++ Spec.bishopDirs) : (Spec.slide occ sq dirs).Nodup := by
  unfold Spec.slide List.Nodup
  rw [List.pairwise_flatMap]
  refine ⟨fun d hd => walk_nodup occ d (hsub d hd) 7 _ _ (onBoard_sq sq hsq), ?_⟩
  apply List.Pairwise.imp_of_mem _ hdirs
  intro d d' hd hd' hne x hx y hy hxy
  rw [mem_walk] at hx hy
  obtain ⟨j, _, hon, _, hxe⟩ := hx
  obtain ⟨j', _, hon', _, hye⟩ := hy
  rw [hxy, hye] at hxe
  obtain ⟨e1, e2⟩ := sqOf_inj _ _ _ _ (hon' j' (Nat.le_refl _)) (hon j (Nat.le_refl _)) hxe
  -- the steps agree, and a direction is the pair of signs of any of its steps
  apply hne
  rw [← dir_sign d (hsub d hd) j, ← dir_sign d' (hsub d' hd') j', Int.add_left_cancel e1, Int.add_left_cancel e2]

end walks

/-- one direction; the other is the same with `s` and `t` exchanged (a leaper's two tables may differ, so
    `IsLeaper.symm` is an equation between them) -/
theorem IsSlider.symm {get : Nat → UInt64 → UInt64} {dirs : List (Int × Int)} (h : IsSlider get dirs)
    (hneg : ∀ d ∈ dirs, (-d.1, -d.2) ∈ dirs) (s t : Nat) (hs : s < 64) (ht : t < 64)
    (occ : UInt64) (hst : getBit (get s occ) t = true) : getBit (get t occ) s = true :=
  (h.mem t s ht hs occ).2 (slide_symm _ _ hneg s t hs ((h.mem s t hs ht occ).1 hst))

theorem rookAttacks_symm (s t : Nat) (hs : s < 64) (ht : t < 64) (occ : UInt64)
    (h : getBit (getRookAttacks s occ) t = true) : getBit (getRookAttacks t occ) s = true :=
  rook_isSlider.symm (by decide) s t hs ht occ h

theorem bishopAttacks_symm (s t : Nat) (hs : s < 64) (ht : t < 64) (occ : UInt64)
    (h : getBit (getBishopAttacks s occ) t = true) : getBit (getBishopAttacks t occ) s = true :=
  bishop_isSlider.symm (by decide) s t hs ht occ h

theorem queenAttacks_symm (s t : Nat) (hs : s < 64) (ht : t < 64) (occ : UInt64)
    (h : getBit (getQueenAttacks s occ) t = true) : getBit (getQueenAttacks t occ) s = true :=
  queen_isSlider.symm (by decide) s t hs ht occ h

theorem jumps_symm (offs offs' : List (Int × Int)) (hneg : ∀ d ∈ offs, (-d.1, -d.2) ∈ offs') (s t : Nat) (hs : s < 64)
    (h : t ∈ Spec.jumps s offs) : s ∈ Spec.jumps t offs' := by
  obtain ⟨d, hd, hb, rfl⟩ := (mem_jumps s offs t).1 h
  obtain ⟨ef, er⟩ := file_row_sqOf _ _ hb
  have e1 : Spec.fileOf s + d.1 + -d.1 = Spec.fileOf s := by omega
  have e2 : Spec.rowOf s + d.2 + -d.2 = Spec.rowOf s := by omega
  refine (mem_jumps _ offs' s).2 ⟨_, hneg d hd, ?_, ?_⟩
  · rw [ef, er, e1, e2]; exact onBoard_sq s hs
  · rw [ef, er, e1, e2, sqOf_file_row]

theorem IsLeaper.symm {get get' : Nat → UInt64} {offs offs' : List (Int × Int)} (h : IsLeaper get offs) (h' : IsLeaper get' offs')
    (hneg : ∀ d ∈ offs, (-d.1, -d.2) ∈ offs') (hneg' : ∀ d ∈ offs', (-d.1, -d.2) ∈ offs) (s t : Nat) (hs : s < 64) (ht : t < 64) :
    getBit (get s) t = getBit (get' t) s := by
  rw [Bool.eq_iff_iff, h.mem s t hs ht, h'.mem t s ht hs]
  exact ⟨jumps_symm _ _ hneg s t hs, jumps_symm _ _ hneg' t s ht⟩

theorem leapers_symm (s t : Nat) (hs : s < 64) (ht : t < 64) :
    (getBit (getKnightAttacks s) t = getBit (getKnightAttacks t) s) ∧
    (getBit (getKingAttacks s) t = getBit (getKingAttacks t) s) ∧
    (getBit (getPawnAttacks s true) t = getBit (getPawnAttacks t false) s) :=
  ⟨knight_isLeaper.symm knight_isLeaper (by decide) (by decide) s t hs ht,
   king_isLeaper.symm king_isLeaper (by decide) (by decide) s t hs ht,
   (pawn_isLeaper true).symm (pawn_isLeaper false) (by decide) (by decide) s t hs ht⟩

end Jence
