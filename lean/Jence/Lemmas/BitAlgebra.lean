/-
  Bit algebra for `UInt64` bit sets. `getBit b s` is bit `s` of the number `b.toNat` (`getBit_eq_testBit`); every
  operation then acts on `getBit` as core's `Nat.testBit_*` lemma says. Proofs about bit sets as sets of squares use these;
  `toNat` appears again only where the number itself is meant: the arithmetic of the bit scan, bounds on a word, tables
  compared as numbers. Last, the rearrangements of XORs that core's associativity and commutativity do not state.
-/
import Jence.Model.Bits
namespace Jence
open Jence

/-- all the flag tests `x &&& 4 != 0` are instances -/
theorem and_two_pow (n s : Nat) : n &&& 2 ^ s = if n.testBit s then 2 ^ s else 0 := by
  apply Nat.eq_of_testBit_eq
  intro i
  rw [Nat.testBit_and]
  by_cases hi : s = i
  · subst hi; cases n.testBit s <;> simp
  · cases n.testBit s <;> simp [hi]

theorem and_pow_bool (n s : Nat) : (n &&& 2 ^ s != 0) = n.testBit s := by
  rw [and_two_pow]
  cases n.testBit s <;> simp

theorem toNat_toUInt64 (k : Nat) (hk : k < 64) : k.toUInt64.toNat = k := by
  simp [Nat.toUInt64, UInt64.toNat_ofNat']; omega

theorem bit_toNat (s : Nat) (hs : s < 64) : (bit s).toNat = 2 ^ s := by
  have : 2 ^ s < 2 ^ 64 := Nat.pow_lt_pow_right (by omega) hs
  unfold bit
  rw [UInt64.toNat_shiftLeft, Nat.mod_eq_of_lt hs, toNat_toUInt64 s hs, Nat.mod_eq_of_lt hs, UInt64.toNat_one,
    Nat.one_shiftLeft, Nat.mod_eq_of_lt this]

theorem beq_zero_toNat (x : UInt64) : (x == 0) = (x.toNat == 0) := by
  rw [Bool.eq_iff_iff, beq_iff_eq, beq_iff_eq, ← UInt64.toNat_inj]; rfl

theorem getBit_eq_testBit (b : UInt64) (s : Nat) (hs : s < 64) : getBit b s = b.toNat.testBit s := by
  rw [getBit, bne, beq_zero_toNat, UInt64.toNat_and, bit_toNat s hs]
  exact and_pow_bool _ s

theorem testBit_toNat_of_ge (b : UInt64) (i : Nat) (hi : 64 ≤ i) : b.toNat.testBit i = false :=
  Nat.testBit_lt_two_pow (Nat.lt_of_lt_of_le b.toNat_lt (Nat.pow_le_pow_right (by omega) hi))

theorem getBit_of_toNat_lt (b : UInt64) {k u : Nat} (hb : b.toNat < 2 ^ k) (hk : k ≤ u) (hu : u < 64) : getBit b u = false := by
  rw [getBit_eq_testBit _ _ hu]
  exact Nat.testBit_lt_two_pow (Nat.lt_of_lt_of_le hb (Nat.pow_le_pow_right (by omega) hk))

theorem ext_getBit (a b : UInt64) (h : ∀ t, t < 64 → getBit a t = getBit b t) : a = b := by
  apply UInt64.toNat_inj.mp
  apply Nat.eq_of_testBit_eq
  intro i
  by_cases hi : i < 64
  · rw [← getBit_eq_testBit _ _ hi, ← getBit_eq_testBit _ _ hi]; exact h i hi
  · rw [testBit_toNat_of_ge a i (by omega), testBit_toNat_of_ge b i (by omega)]

theorem getBit_zero (t : Nat) (ht : t < 64) : getBit 0 t = false := by
  rw [getBit_eq_testBit _ _ ht]; exact Nat.zero_testBit t

theorem getBit_and (a b : UInt64) (s : Nat) (hs : s < 64) : getBit (a &&& b) s = (getBit a s && getBit b s) := by
  simp only [getBit_eq_testBit _ _ hs, UInt64.toNat_and, Nat.testBit_and]

theorem getBit_or (a b : UInt64) (s : Nat) (hs : s < 64) : getBit (a ||| b) s = (getBit a s || getBit b s) := by
  simp only [getBit_eq_testBit _ _ hs, UInt64.toNat_or, Nat.testBit_or]

theorem getBit_xor (a b : UInt64) (s : Nat) (hs : s < 64) : getBit (a ^^^ b) s = (getBit a s ^^ getBit b s) := by
  simp only [getBit_eq_testBit _ _ hs, UInt64.toNat_xor, Nat.testBit_xor]

theorem getBit_not (x : UInt64) (t : Nat) (ht : t < 64) : getBit (~~~x) t = !getBit x t := by
  simp only [getBit_eq_testBit _ _ ht, UInt64.toNat_not]
  rw [show UInt64.size - 1 - x.toNat = 2 ^ 64 - (x.toNat + 1) from by simp [UInt64.size],
    Nat.testBit_two_pow_sub_succ x.toNat_lt]
  simp [ht]

theorem getBit_bit (s t : Nat) (hs : s < 64) (ht : t < 64) : getBit (bit s) t = decide (s = t) := by
  rw [getBit_eq_testBit _ _ ht, bit_toNat s hs, Nat.testBit_two_pow]

theorem getBit_setBit (b : UInt64) (s t : Nat) (hs : s < 64) (ht : t < 64) :
    getBit (setBit b s) t = (getBit b t || decide (s = t)) := by
  unfold setBit; rw [getBit_or _ _ _ ht, getBit_bit s t hs ht]

theorem getBit_unsetBit (b : UInt64) (s t : Nat) (hs : s < 64) (ht : t < 64) :
    getBit (unsetBit b s) t = (getBit b t && decide (s ≠ t)) := by
  unfold unsetBit
  rw [getBit_and _ _ _ ht, getBit_xor _ _ _ ht, getBit_bit s t hs ht]
  by_cases h : s = t <;> cases getBit b t <;> simp [h]

theorem getBit_setBit_ne (b : UInt64) (s t : Nat) (hs : s < 64) (ht : t < 64) (h : t ≠ s) : getBit (setBit b s) t = getBit b t := by
  rw [getBit_setBit b s t hs ht, decide_eq_false (Ne.symm h), Bool.or_false]

theorem getBit_setBit_self (b : UInt64) (s : Nat) (hs : s < 64) : getBit (setBit b s) s = true := by
  rw [getBit_setBit b s s hs hs, decide_eq_true rfl, Bool.or_true]

theorem getBit_unsetBit_ne (b : UInt64) (s t : Nat) (hs : s < 64) (ht : t < 64) (h : t ≠ s) : getBit (unsetBit b s) t = getBit b t := by
  rw [getBit_unsetBit b s t hs ht, decide_eq_true (Ne.symm h), Bool.and_true]

theorem getBit_unsetBit_self (b : UInt64) (s : Nat) (hs : s < 64) : getBit (unsetBit b s) s = false := by
  rw [getBit_unsetBit b s s hs hs, decide_eq_false (fun h => h rfl), Bool.and_false]

/-- clearing a clear bit / setting a set bit changes nothing -/
theorem unsetBit_of_clear (b : UInt64) (s : Nat) (hs : s < 64) (h : getBit b s = false) : unsetBit b s = b := by
  apply ext_getBit
  intro t ht
  by_cases he : t = s
  · rw [he, getBit_unsetBit_self b s hs, h]
  · rw [getBit_unsetBit_ne b s t hs ht he]

theorem getBit_shiftLeft (b : UInt64) (o t : Nat) (ho : o < 64) (ht : t < 64) :
    getBit (b <<< o.toUInt64) t = (decide (o ≤ t) && getBit b (t - o)) := by
  rw [getBit_eq_testBit _ _ ht, getBit_eq_testBit _ _ (by omega : t - o < 64), UInt64.toNat_shiftLeft,
    toNat_toUInt64 o ho, Nat.mod_eq_of_lt ho, Nat.testBit_mod_two_pow, Nat.testBit_shiftLeft]
  simp [ht]

theorem getBit_shiftRight (b : UInt64) (o t : Nat) (ho : o < 64) (ht : t < 64) :
    getBit (b >>> o.toUInt64) t = (decide (o + t < 64) && getBit b (o + t)) := by
  rw [getBit_eq_testBit _ _ ht, UInt64.toNat_shiftRight, toNat_toUInt64 o ho, Nat.mod_eq_of_lt ho, Nat.testBit_shiftRight]
  by_cases h : o + t < 64
  · rw [getBit_eq_testBit _ _ h]; simp [h]
  · rw [testBit_toNat_of_ge b _ (by omega)]; simp [h]

theorem bit_shl (s : Nat) (hs : s < 64) (o : Nat) (ho : o < 64) (hso : s + o < 64) : (bit s <<< o.toUInt64) = bit (s + o) := by
  apply ext_getBit; intro t ht
  rw [getBit_shiftLeft _ o t ho ht, getBit_bit _ _ hs (by omega), getBit_bit _ _ hso ht]
  by_cases h : s + o = t
  · simp [h]; omega
  · simp [h]; omega

theorem bit_shr (s : Nat) (hs : s < 64) (o : Nat) (ho : o ≤ s) : (bit s >>> o.toUInt64) = bit (s - o) := by
  apply ext_getBit; intro t ht
  rw [getBit_bit _ _ (by omega : s - o < 64) ht, getBit_shiftRight _ o t (by omega) ht]
  by_cases h : o + t < 64
  · rw [getBit_bit _ _ hs h]
    by_cases h' : s - o = t
    · simp [h, h']; omega
    · simp [h, h']; omega
  · have : ¬ s - o = t := by omega
    simp [h, this]

theorem isEmpty_iff (y : UInt64) : isEmpty y = true ↔ ∀ u, u < 64 → getBit y u = false := by
  unfold isEmpty
  rw [beq_iff_eq]
  constructor
  · intro h u hu; rw [h, getBit_zero u hu]
  · intro h; exact ext_getBit y 0 fun t ht => by rw [h t ht, getBit_zero t ht]

theorem not_isEmpty_iff (y : UInt64) : (!isEmpty y) = true ↔ ∃ u, u < 64 ∧ getBit y u = true := by
  rw [Bool.not_eq_true', ← Bool.not_eq_true, isEmpty_iff]
  simp

theorem not_isEmpty_and_iff (a b : UInt64) :
    (!isEmpty (a &&& b)) = true ↔ ∃ t, t < 64 ∧ getBit a t = true ∧ getBit b t = true := by
  rw [not_isEmpty_iff]
  refine exists_congr fun t => and_congr_right fun ht => ?_
  rw [getBit_and _ _ _ ht, Bool.and_eq_true]

theorem isEmpty_and_iff (a mask : UInt64) : isEmpty (a &&& mask) = true ↔ ∀ t, t < 64 → getBit mask t = true → getBit a t = false := by
  rw [isEmpty_iff]
  refine forall_congr' fun t => forall_congr' fun ht => ?_
  rw [getBit_and _ _ _ ht]
  cases getBit a t <;> cases getBit mask t <;> simp

/-- the en-passant test of the generator -/
theorem not_isEmpty_and_bit (a : UInt64) (t : Nat) (ht : t < 64) : (!isEmpty (a &&& bit t)) = true ↔ getBit a t = true := by
  rw [not_isEmpty_and_iff]
  constructor
  · rintro ⟨u, hu, ha, hb⟩
    rw [getBit_bit t u ht hu, decide_eq_true_eq] at hb
    rw [hb]; exact ha
  · intro h; exact ⟨t, ht, h, by rw [getBit_bit t t ht ht]; exact decide_eq_true rfl⟩

/- A trap: `ac_rfl` on a goal whose atoms are table lookups (such as the key lookups of `Lemmas/XorSum`) runs into "maximum
   recursion depth" (comparing atoms it unfolds the tables); on variables it is fine. So `generalize` the lookups first, or
   rearrange with `xor_right_comm` / `xor_left_comm`. -/

theorem xor_cancel (a b : UInt64) : a ^^^ b ^^^ b = a := by
  rw [UInt64.xor_assoc, UInt64.xor_self, UInt64.xor_zero]

theorem xor_cancel_left (a b : UInt64) : a ^^^ (a ^^^ b) = b := by
  rw [← UInt64.xor_assoc, UInt64.xor_self, UInt64.zero_xor]

theorem xor_left_comm (a b c : UInt64) : a ^^^ (b ^^^ c) = b ^^^ (a ^^^ c) := by
  rw [← UInt64.xor_assoc, UInt64.xor_comm a b, UInt64.xor_assoc]

theorem xor_right_comm (a b c : UInt64) : a ^^^ b ^^^ c = a ^^^ c ^^^ b := by
  rw [UInt64.xor_assoc, UInt64.xor_comm b c, ← UInt64.xor_assoc]

theorem xor_ne_self {k x : UInt64} (h : x ≠ 0) : k ^^^ x ≠ k :=
  fun e => h ((UInt64.xor_right_inj k).1 (by rw [e, UInt64.xor_zero]))

end Jence
