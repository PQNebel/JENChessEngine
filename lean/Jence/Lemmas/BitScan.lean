/-
  The bit-scan primitives: `tzcnt` finds the lowest set bit, `blsr` clears exactly that bit, and the extract loop
  `bitsOf` lists the set bits in ascending order. (ISA semantics of TZCNT/BLSR as modelled in `Model/Bits`.)
-/
import Jence.Lemmas.BitAlgebra
namespace Jence
open Jence

theorem shr_toNat (b : UInt64) (k : Nat) (hk : k < 64) : (b >>> k.toUInt64).toNat = b.toNat / 2 ^ k := by
  rw [UInt64.toNat_shiftRight, toNat_toUInt64 k hk, Nat.mod_eq_of_lt hk, Nat.shiftRight_eq_div_pow]

/-- one stage of the search for the lowest set bit of `x`. Before: `p = (y, a)` with `x = y * 2^a` and a set bit among the
    low `2k` bits of `y`; after: the same with a set bit among the low `k` bits. -/
theorem tzStage_spec (x k : Nat) (m : UInt64) (hk : k < 64) (hm : m.toNat = 2 ^ k - 1) (p : UInt64 × Nat)
    (h : x = p.1.toNat * 2 ^ p.2 ∧ p.1.toNat % 2 ^ (2 * k) ≠ 0) :
    x = (tzStage k m p).1.toNat * 2 ^ (tzStage k m p).2 ∧ (tzStage k m p).1.toNat % 2 ^ k ≠ 0 := by
  obtain ⟨h, hw⟩ := h
  unfold tzStage
  rw [beq_zero_toNat, UInt64.toNat_and, hm, Nat.and_two_pow_sub_one_eq_mod]
  by_cases h0 : p.1.toNat % 2 ^ k = 0
  · rw [if_pos (beq_iff_eq.2 h0)]
    simp only [shr_toNat _ k hk]
    have hd := Nat.dvd_of_mod_eq_zero h0
    refine ⟨?_, fun h1 => hw ?_⟩
    · rw [h, Nat.pow_add, Nat.mul_comm (2 ^ p.2), ← Nat.mul_assoc, Nat.div_mul_cancel hd]
    · rw [Nat.two_mul, Nat.pow_add]
      exact Nat.mod_eq_zero_of_dvd (Nat.mul_dvd_of_dvd_div hd (Nat.dvd_of_mod_eq_zero h1))
  · rw [if_neg (by simpa using h0)]; exact ⟨h, h0⟩

theorem testBit_odd_even (q : Nat) :
    (2 * q + 1).testBit 0 = true ∧ (2 * q).testBit 0 = false ∧ ∀ i, (2 * q + 1).testBit (i + 1) = (2 * q).testBit (i + 1) :=
  ⟨by rw [Nat.testBit_zero, Nat.mul_add_mod]; rfl, by rw [Nat.testBit_zero, Nat.mul_mod_right]; rfl,
   fun i => by rw [Nat.testBit_succ, Nat.testBit_succ, Nat.mul_add_div (by omega), Nat.mul_div_cancel_left _ (by omega)]; rfl⟩

theorem toNat_ne_zero (b : UInt64) (hb : (b == 0) = false) : b.toNat ≠ 0 := by
  rw [beq_zero_toNat] at hb; exact ne_of_beq_false hb

theorem lowbit_decomp (b : UInt64) (hb : (b == 0) = false) :
    ∃ q, b.toNat = 2 ^ (tzcnt b) * (2 * q + 1) ∧ tzcnt b < 64 := by
  -- the closing test of `tzcnt` is a stage of width 1
  have last : ∀ p : UInt64 × Nat, (if p.1 &&& 0x1 == 0 then p.2 + 1 else p.2) = (tzStage 1 0x1 p).2 := by
    intro p; unfold tzStage; split <;> rfl
  have s := tzStage_spec b.toNat 1 0x1 (by decide) (by decide) _ <|
    tzStage_spec b.toNat 2 0x3 (by decide) (by decide) _ <|
    tzStage_spec b.toNat 4 0xF (by decide) (by decide) _ <|
    tzStage_spec b.toNat 8 0xFF (by decide) (by decide) _ <|
    tzStage_spec b.toNat 16 0xFFFF (by decide) (by decide) _ <|
    tzStage_spec b.toNat 32 0xFFFFFFFF (by decide) (by decide) (b, 0)
      ⟨by simp, by rw [Nat.mod_eq_of_lt b.toNat_lt]; exact toNat_ne_zero b hb⟩
  unfold tzcnt
  simp only [hb, Bool.false_eq_true, ↓reduceIte, last]
  generalize tzStage 1 0x1 _ = p at s ⊢
  obtain ⟨hx, hodd⟩ := s
  refine ⟨p.1.toNat / 2, by rw [show 2 * (p.1.toNat / 2) + 1 = p.1.toNat by omega, Nat.mul_comm]; exact hx, ?_⟩
  have : 2 ^ p.2 ≤ b.toNat := hx ▸ Nat.le_mul_of_pos_left _ (Nat.pos_of_ne_zero fun h => hodd (by rw [h]))
  exact (Nat.pow_lt_pow_iff_right (by decide)).1 (Nat.lt_of_le_of_lt this b.toNat_lt)

theorem tzcnt_lt (b : UInt64) (hb : (b == 0) = false) : tzcnt b < 64 := (lowbit_decomp b hb).elim fun _ h => h.2

theorem getBit_tzcnt (b : UInt64) (hb : (b == 0) = false) :
    getBit b (tzcnt b) = true ∧ ∀ j, j < tzcnt b → getBit b j = false := by
  obtain ⟨q, hq, hlt⟩ := lowbit_decomp b hb
  refine ⟨?_, fun j hj => ?_⟩
  · rw [getBit_eq_testBit _ _ hlt, hq, Nat.testBit_two_pow_mul, Nat.sub_self, (testBit_odd_even q).1, decide_eq_true (Nat.le_refl _)]; rfl
  · rw [getBit_eq_testBit _ _ (Nat.lt_trans hj hlt), hq, Nat.testBit_two_pow_mul, decide_eq_false (Nat.not_le.2 hj)]; rfl

theorem sub_one_toNat (b : UInt64) (hb : (b == 0) = false) : (b - 1).toNat = b.toNat - 1 := by
  have hx0 := toNat_ne_zero b hb
  rw [UInt64.toNat_sub_of_le]
  · rfl
  · rw [UInt64.le_iff_toNat_le]; simp; omega

theorem getBit_blsr (b : UInt64) (hb : (b == 0) = false) (j : Nat) (hj : j < 64) :
    getBit (blsr b) j = (getBit b j && decide (j ≠ tzcnt b)) := by
  obtain ⟨q, hq, hlt⟩ := lowbit_decomp b hb
  rw [blsr, getBit_and _ _ _ hj, getBit_eq_testBit b j hj, getBit_eq_testBit (b - 1) j hj, sub_one_toNat b hb, hq]
  generalize tzcnt b = n
  have hpos := Nat.two_pow_pos n
  -- x = 2^n * (2q + 1) and x - 1 = 2^n * (2q) + (2^n - 1)
  have hx : 2 ^ n * (2 * q + 1) - 1 = 2 ^ n * (2 * q) + (2 ^ n - 1) := by rw [Nat.mul_add, Nat.mul_one, Nat.add_sub_assoc hpos]
  rw [hx, Nat.testBit_two_pow_mul_add (2 * q) (Nat.sub_one_lt (Nat.ne_of_gt hpos)) j, Nat.testBit_two_pow_mul]
  obtain ⟨_, h0, hs⟩ := testBit_odd_even q
  -- below `n` both sides are clear; at `n` the even cofactor has no bit; above `n` the cofactors agree
  rcases Nat.lt_trichotomy j n with h | h | h
  · rw [decide_eq_false (Nat.not_le.2 h)]; rfl
  · rw [h, if_neg (Nat.lt_irrefl _), Nat.sub_self, h0, decide_eq_false (fun hne => hne rfl : ¬ n ≠ n), Bool.and_false]
  · obtain ⟨k, rfl⟩ := Nat.exists_eq_add_of_lt h
    rw [if_neg (Nat.lt_asymm h), decide_eq_true (Nat.ne_of_gt h), Nat.add_assoc, Nat.add_sub_cancel_left, hs, Bool.and_true,
      Bool.and_assoc, Bool.and_self]

theorem filter_bits_cons (b : UInt64) (hb : (b == 0) = false) :
    (List.range 64).filter (fun j => getBit b j) = tzcnt b :: (List.range 64).filter (fun j => getBit (blsr b) j) := by
  obtain ⟨hset, hbelow⟩ := getBit_tzcnt b hb
  have hn := tzcnt_lt b hb
  have hblsr := getBit_blsr b hb
  generalize tzcnt b = n at *
  have hsplit : List.range 64 = List.range' 0 n ++ n :: List.range' (n + 1) (63 - n) := by
    rw [List.range_eq_range', show 64 = n + ((63 - n) + 1) by omega, ← List.range'_append_1, List.range'_succ, Nat.zero_add]
  have low : ∀ p : Nat → Bool, (∀ j, j < n → p j = false) → (List.range' 0 n).filter p = [] := fun p h =>
    List.filter_eq_nil_iff.2 fun j hj => by rw [List.mem_range'_1] at hj; simp [h j (by omega)]
  rw [hsplit, List.filter_append, List.filter_append, List.filter_cons, List.filter_cons,
    low _ hbelow, low _ (fun j hj => by rw [hblsr j (by omega), hbelow j hj]; rfl), hset, hblsr n hn,
    if_pos rfl, if_neg (by simp)]
  refine congrArg (n :: ·) (List.filter_congr fun j hj => ?_)
  rw [List.mem_range'_1] at hj
  rw [hblsr j (by omega), decide_eq_true (by omega : j ≠ n), Bool.and_true]

theorem tzcnt_le (b : UInt64) : tzcnt b ≤ 64 := by
  by_cases hb : (b == 0) = true
  · unfold tzcnt; simp [hb]
  · exact Nat.le_of_lt (tzcnt_lt b (by simpa using hb))

theorem tzcnt_single (x : UInt64) (k : Nat) (hk : k < 64) (hset : getBit x k = true)
    (huniq : ∀ t, t < 64 → getBit x t = true → t = k) : tzcnt x = k := by
  have hx : (x == 0) = false := by
    cases h : x == 0
    · rfl
    · rw [eq_of_beq h, getBit_zero k hk] at hset; exact absurd hset (by simp)
  exact huniq _ (tzcnt_lt x hx) (getBit_tzcnt x hx).1

theorem bitsOfAux_acc (fuel : Nat) : ∀ (m : UInt64) (acc : List Nat), bitsOfAux fuel m acc = acc.reverse ++ bitsOfAux fuel m [] := by
  induction fuel with
  | zero => intro m acc; simp [bitsOfAux]
  | succ n ih =>
    intro m acc
    simp only [bitsOfAux]
    split
    · simp
    · rw [ih _ (tzcnt m :: acc), ih _ [tzcnt m]]; simp

theorem bitsOfAux_eq (fuel : Nat) : ∀ (b : UInt64) (acc : List Nat),
    ((List.range 64).filter (fun j => getBit b j)).length ≤ fuel →
    bitsOfAux fuel b acc = acc.reverse ++ (List.range 64).filter (fun j => getBit b j) := by
  induction fuel with
  | zero =>
    intro b acc h
    rw [List.length_eq_zero_iff.1 (Nat.le_zero.1 h)]; simp [bitsOfAux]
  | succ fuel ih =>
    intro b acc h
    rw [bitsOfAux]
    cases hb : b == 0
    · rw [filter_bits_cons b hb] at h ⊢
      rw [if_neg (by simp), ih _ _ (by simpa using h)]
      simp
    · rw [eq_of_beq hb, if_pos rfl, List.filter_eq_nil_iff.2 fun j hj => by rw [getBit_zero j (List.mem_range.1 hj)]; simp]
      simp

theorem bitsOf_eq_filter (b : UInt64) : bitsOf b = (List.range 64).filter (fun j => getBit b j) := by
  rw [bitsOf, bitsOfAux_eq 64 b [] (Nat.le_trans (List.length_filter_le _ _) (by simp))]
  rfl

theorem mem_bitsOf (b : UInt64) (s : Nat) : s ∈ bitsOf b ↔ s < 64 ∧ getBit b s = true := by
  rw [bitsOf_eq_filter, List.mem_filter, List.mem_range]

theorem bitsOf_lt (b : UInt64) : ∀ s ∈ bitsOf b, s < 64 := fun s hs => ((mem_bitsOf b s).1 hs).1

theorem bitsOf_le (b : UInt64) : ∀ s ∈ bitsOf b, s ≤ 64 := fun s hs => Nat.le_of_lt (bitsOf_lt b s hs)

theorem bitsOf_nodup (b : UInt64) : (bitsOf b).Nodup := by
  rw [bitsOf_eq_filter]
  exact List.Nodup.sublist (List.filter_sublist) List.nodup_range

theorem bitsOf_length_le (b : UInt64) : (bitsOf b).length ≤ 64 := by
  rw [bitsOf_eq_filter]
  exact Nat.le_trans (List.length_filter_le _ _) (by simp)

theorem bitsOf_index_lt (b : UInt64) {i s : Nat} (h : (bitsOf b)[i]? = some s) : i < 64 :=
  Nat.lt_of_lt_of_le (List.getElem?_eq_some_iff.1 h).1 (bitsOf_length_le b)

end Jence
