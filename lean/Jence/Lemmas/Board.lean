/-
  The twelve piece sets seen as a board `square → piece`. `Rep bbs b x`: the piece sets hold exactly what the board `b`
  says, plus at most one extra (piece, square) pair `x` - `make_search_move` puts the moving piece on its target square
  before it removes what stood there, so in between two sets share one square. `pieceOf` and `smove` read a piece index and
  a move word as the rules' piece and move.
-/
import Jence.Lemmas.BitAlgebra
import Jence.Lemmas.ListExtra
import Jence.Lemmas.MovePack
import Jence.Model.Types
import Jence.Spec.Oracle
namespace Jence
open Jence

/-- square ↦ index of the piece set that holds it (0-11, `WP` … `BK`), `none` for an empty square -/
abbrev Board := Nat → Option Nat

def Board.set (b : Board) (s : Nat) (v : Option Nat) : Board := fun t => if t = s then v else b t

@[simp] theorem Board.set_same (b : Board) (s : Nat) (v : Option Nat) : b.set s v s = v := by simp [Board.set]
theorem Board.set_ne {b : Board} {s t : Nat} {v : Option Nat} (h : t ≠ s) : b.set s v t = b t := by simp [Board.set, h]

theorem Board.set_set (b : Board) (s : Nat) (v v' : Option Nat) : (b.set s v).set s v' = b.set s v' := by
  funext t; unfold Board.set; split <;> rfl

theorem Board.set_self (b : Board) (s : Nat) (v : Option Nat) (h : b s = v) : b.set s v = b := by
  funext t; unfold Board.set; split
  · rename_i h'; rw [h', h]
  · rfl

theorem Board.set_comm (b : Board) (s s' : Nat) (v v' : Option Nat) (h : s ≠ s') :
    (b.set s v).set s' v' = (b.set s' v').set s v := by
  funext t; unfold Board.set
  by_cases h1 : t = s' <;> by_cases h2 : t = s
  · exact absurd (h2.symm.trans h1) h
  · subst h1; simp [h2]
  · subst h2; simp [h1]
  · simp [h1, h2]

def Rep (bbs : Array UInt64) (b : Board) (x : Option (Nat × Nat)) : Prop :=
  bbs.size = 12 ∧ ∀ q t, q < 12 → t < 64 → getBit (bbs.getD q 0) t = (decide (b t = some q) || decide (x = some (q, t)))

theorem rep_unset (bbs : Array UInt64) (b : Board) (x : Option (Nat × Nat)) (q s : Nat) (h : Rep bbs b x)
    (hq : q < 12) (hs : s < 64) (hb : b s = some q) (hx : x ≠ some (q, s)) :
    Rep (bbs.setIfInBounds q (unsetBit (bbs.getD q 0) s)) (b.set s none) x := by
  obtain ⟨hsz, hr⟩ := h
  refine ⟨by rw [Array.size_setIfInBounds]; exact hsz, ?_⟩
  intro q' t hq' ht
  by_cases hqq : q' = q
  · subst hqq
    rw [getD_setIfInBounds_self _ _ _ (by omega)]
    by_cases hts : t = s
    · subst hts
      have : decide (x = some (q', t)) = false := by simpa using hx
      simp [getBit_unsetBit_self _ _ hs, this]
    · rw [getBit_unsetBit_ne _ _ _ hs ht hts, hr q' t hq' ht, Board.set_ne hts]
  · rw [getD_setIfInBounds_ne _ _ _ hqq, hr q' t hq' ht]
    by_cases hts : t = s
    · subst hts
      have h1 : decide (b t = some q') = false := by
        rw [hb]; simp; exact fun h => hqq h.symm
      simp [h1]
    · rw [Board.set_ne hts]

theorem rep_set (bbs : Array UInt64) (b : Board) (q s : Nat) (h : Rep bbs b none) (hq : q < 12) (hs : s < 64) :
    Rep (bbs.setIfInBounds q (setBit (bbs.getD q 0) s)) b (some (q, s)) := by
  obtain ⟨hsz, hr⟩ := h
  refine ⟨by rw [Array.size_setIfInBounds]; exact hsz, ?_⟩
  intro q' t hq' ht
  by_cases hqq : q' = q
  · subst hqq
    rw [getD_setIfInBounds_self _ _ _ (by omega), getBit_setBit _ _ _ hs ht, hr q' t hq' ht]
    simp
  · rw [getD_setIfInBounds_ne _ _ _ hqq, hr q' t hq' ht]
    have : ¬ q = q' := fun h => hqq h.symm
    simp [this]

theorem rep_merge (bbs : Array UInt64) (b : Board) (q s : Nat) (h : Rep bbs b (some (q, s))) (hb : b s = none) :
    Rep bbs (b.set s (some q)) none := by
  obtain ⟨hsz, hr⟩ := h
  refine ⟨hsz, ?_⟩
  intro q' t hq' ht
  rw [hr q' t hq' ht]
  by_cases hts : t = s
  · subst hts
    simp [hb]
  · rw [Board.set_ne hts]
    have : ¬ (q = q' ∧ s = t) := fun h => hts h.2.symm
    simp [this]

theorem rep_bit (bbs : Array UInt64) (b : Board) (h : Rep bbs b none) (q t : Nat) (hq : q < 12) (ht : t < 64) :
    getBit (bbs.getD q 0) t = decide (b t = some q) := by
  rw [h.2 q t hq ht]; simp

theorem rep_bit_iff {bbs : Array UInt64} {b : Board} (h : Rep bbs b none) {q t : Nat} (hq : q < 12) (ht : t < 64) :
    getBit (bbs.getD q 0) t = true ↔ b t = some q := by
  rw [rep_bit bbs b h q t hq ht, decide_eq_true_eq]

/-- the rules' piece for a piece index: white below 6, the kind by the index mod 6 -/
def pieceOf (q : Nat) : Spec.Piece := ⟨decide (q < 6), Spec.kindOfIndex q⟩

theorem pieceOf_inj : ∀ x, x < 12 → ∀ y, y < 12 → pieceOf x = pieceOf y → x = y := by decide

theorem pieceOf_king : ∀ q, q < 12 → (((pieceOf q).kind == Spec.Kind.king) = true ↔ (q = WK ∨ q = BK)) := by decide
theorem pieceOf_pawn : ∀ q, q < 12 → ((pieceOf q).kind = Spec.Kind.pawn ↔ (q = WP ∨ q = BP)) := by decide

theorem pieceOf_side (w : Bool) (k : Nat) (hk : k < 6) : pieceOf (k + sideOff w) = ⟨w, Spec.kindOfIndex k⟩ := by
  have hk' : k = 0 ∨ k = 1 ∨ k = 2 ∨ k = 3 ∨ k = 4 ∨ k = 5 := by omega
  rcases hk' with rfl | rfl | rfl | rfl | rfl | rfl <;> cases w <;> rfl

theorem pieceOf_pawn_ite (w : Bool) : pieceOf (if w then WP else BP) = ⟨w, .pawn⟩ := by cases w <;> rfl

theorem pieceOf_nonpawn (w : Bool) (X : Nat) (hX : ownP w X) (h : X ≠ (if w then WP else BP)) : (pieceOf X).kind ≠ .pawn := by
  have hWP : WP = 0 := rfl
  have hBP : BP = 6 := rfl
  intro hk
  have := (pieceOf_pawn X (ownP_lt hX)).1 hk
  rw [ownP_iff_lt] at hX
  cases w <;> simp at hX h <;> omega

theorem pieceOf_white (X : Nat) (byWhite : Bool) (hX : X < 12) : ((pieceOf X).white == byWhite) = true ↔ ownP byWhite X := by
  unfold pieceOf ownP
  cases byWhite <;> simp <;> omega

theorem ownP_white {w : Bool} {X : Nat} (h : ownP w X) : (pieceOf X).white = w :=
  eq_of_beq ((pieceOf_white X w (ownP_lt h)).2 h)

/-- the rules' move a move word stands for: its squares and promotion kind, the flags dropped -/
def smove (m : Move) : Spec.SMove :=
  ⟨m.fromSq, m.toSq, if m.promotion = PNONE then none else some (Spec.kindOfIndex m.promotion)⟩

end Jence
