/-
  T9.1: the poll cadence. `maybe_poll` runs at every node right before the node counter goes up, with the counter's
  current value; so while the search has not been told to stop, every value of the node counter that passes the
  program's test `nodes & INPUT_POLL_INTERVAL == 0` has been a poll point (`pollLog` records the counter at every poll).
  `Cad` is stated with that test; that it picks the multiples of `INPUT_POLL_INTERVAL + 1` is `poll_test_is_multiple`
  in `Props/C09`.
-/
import Jence.Lemmas.Steps
namespace Jence
open Jence

/-- every due value of the node counter below the current one has been polled, as long as no stop was seen -/
def Cad (e : Env) : Prop :=
  e.stopping = false → ∀ n, n < e.nodes → n &&& Gen.INPUT_POLL_INTERVAL = 0 → n ∈ e.pollLog

/-- an update that touches neither the counter, nor the poll log, nor the stop flag -/
def Same3 (e e' : Env) : Prop := e'.nodes = e.nodes ∧ e'.pollLog = e.pollLog ∧ e'.stopping = e.stopping

theorem Same3.cad {e e' : Env} (h : Same3 e e') (hc : Cad e) : Cad e' := by
  intro hs n hn hd; rw [h.2.1]; exact hc (by rw [← h.2.2]; exact hs) n (by rw [← h.1]; exact hn) hd
theorem Same3.polled {e e' : Env} (h : Same3 e e') (hc : Polled e) : Polled e' := by
  intro hs hd; rw [h.2.1, h.1]; exact hc (by rw [← h.2.2]; exact hs) (by rw [← h.1]; exact hd)

theorem count_cad (e : Env) (hc : Cad e) (hp : Polled e) : Cad { e with nodes := e.nodes + 1 } := by
  intro hs n hn hd
  have hn' : n < e.nodes + 1 := hn
  by_cases h : n = e.nodes
  · subst h; exact hp hs hd
  · exact hc hs n (by omega) hd

theorem cad_steps (P : Prop) : Steps P fun e e' => Cad e → Cad e' where
  refl _ := id
  trans h1 h2 := h2 ∘ h1
  ghost _ _ _ _ _ := Same3.cad ⟨rfl, rfl, rfl⟩
  pollRun _ _ _ _ _ _ _ _ _ hs _ hc _ n hn hd := Array.mem_push_of_mem _ (hc hs n hn hd)
  count e hp hc := count_cad e hc hp
  flags _ _ _ := Same3.cad ⟨rfl, rfl, rfl⟩
  pushPop _ _ _ _ h := Same3.cad ⟨rfl, rfl, rfl⟩ ∘ h ∘ Same3.cad ⟨rfl, rfl, rfl⟩
  pvLen _ := Same3.cad ⟨rfl, rfl, rfl⟩
  ttHit _ := Same3.cad ⟨rfl, rfl, rfl⟩
  child _ _ _ _ h := Same3.cad ⟨rfl, rfl, rfl⟩ ∘ h ∘ Same3.cad ⟨rfl, rfl, rfl⟩
  null _ _ _ h := Same3.cad ⟨rfl, rfl, rfl⟩ ∘ h ∘ Same3.cad ⟨rfl, rfl, rfl⟩
  pv _ _ _ := Same3.cad ⟨rfl, rfl, rfl⟩
  tables _ _ _ _ := Same3.cad ⟨rfl, rfl, rfl⟩
  record _ _ _ _ _ _ := Same3.cad ⟨rfl, rfl, rfl⟩
  print _ _ _ := Same3.cad ⟨rfl, rfl, rfl⟩

theorem maybePoll_cad (cfg : Cfg) (e : Env) (hc : Cad e) : Cad (e.maybePoll cfg) ∧ Polled (e.maybePoll cfg) :=
  ⟨(cad_steps False).toQSteps.poll cfg e hc, polled_maybePoll cfg e⟩

theorem quiescence_cad (R : Rules) (cfg : Cfg) (fuel : Nat) (g : Game) (alpha beta : Int) (e : Env) (hc : Cad e) :
    Cad (quiescence R cfg fuel g alpha beta e).2 :=
  quiescence_steps (cad_steps False).toQSteps False.elim R cfg fuel g alpha beta e hc

theorem negamax_cad (R : Rules) (cfg : Cfg) (fuel : Nat) (g : Game) (depth : Nat) (alpha beta : Int) (e : Env) (hc : Cad e) :
    Cad (negamax R cfg fuel g depth alpha beta e).2 :=
  negamax_steps (cad_steps False) False.elim R cfg fuel g depth alpha beta e hc

/-- **T9.1** at the end of a `search` that was not stopped, every value below the final node count that passes the poll
    test (the multiples of `INPUT_POLL_INTERVAL + 1`: `C09.poll_test_is_multiple`) has been a poll point -/
theorem search_cad (R : Rules) (cfg : Cfg) (g : Game) (depth : Int) (tt : TT) (rep : RepTable) :
    Cad (search R cfg g depth tt rep).2 := by
  obtain ⟨_, _, _, _, he⟩ := search_eq R cfg g depth tt rep
  rw [he]
  exact Same3.cad ⟨rfl, rfl, rfl⟩ (searchLoopEnd_steps (cad_steps False) False.elim R cfg g depth tt rep
    fun _ n hn _ => absurd hn (Nat.not_lt_zero n))

end Jence
