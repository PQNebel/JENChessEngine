/-
  Castling: the generator's conditions plus the check test of `make_search_move` say what the rules say (rights, empty
  squares, king not in check, not passing over or landing on an attacked square, not in check afterwards).
-/
import Jence.Lemmas.LegalRefine
import Jence.Lemmas.PseudoRefine
namespace Jence
open Jence

section castle
variable {g : Game} {b : Board} {m : Move}

theorem quiet_enemy_iff (fits : MoveFits b g.white m) (hc : m.isCapture = false) (s X : Nat) (hX : enemyP g.white X) :
    preBoard b g.white m s = some X ↔ b s = some X := by
  have hpre : preBoard b g.white m = (b.set m.fromSq none).set m.toSq (some m.piece) := by
    unfold preBoard; rw [fits.ep_cap hc]; rfl
  -- the mover's own piece is the only thing that changes place
  have hno : some m.piece ≠ some X := fun h => own_not_enemy fits.piece (Option.some.inj h ▸ hX)
  rw [hpre]
  by_cases h1 : s = m.toSq
  · rw [h1, Board.set_same, fits.quiet hc]; exact ⟨fun h => absurd h hno, fun h => absurd h (by simp)⟩
  · rw [Board.set_ne h1]
    by_cases h2 : s = m.fromSq
    · rw [h2, Board.set_same, fits.src]; exact ⟨fun h => absurd h (by simp), fun h => absurd h hno⟩
    · rw [Board.set_ne h2]

/-- **castling and the check test**: for a castling move that fits the board, the king's home square not being attacked,
    the check test of `make_search_move` (on the position with the king moved and the rook still at home) passes iff the
    king's target square is not attacked beforehand; and if it passes, the king is not in check in the finished position. -/
theorem castle_accept (wf : Wf g b) (fits : MoveFits b g.white m) (hcs : m.isCastling = true)
    (hsafe : isSquareAttacked g m.fromSq (!g.white) = false) :
    (isInCheck (makePre g m) g.white = false ↔ isSquareAttacked g m.toSq (!g.white) = false) ∧
    (isInCheck (makePre g m) g.white = false → isInCheck (makeForce g m) g.white = false) := by
  obtain ⟨hpn, hc, _⟩ := fits.castle hcs
  have hbto : applyB b g.white m m.toSq = some (if g.white then WK else BK) := by
    rw [applyB_to_piece fits hpn, (fits.castleFrom hcs).2]
  have wf' := makeForce_wf wf fits
  have hpre := makePre_rep wf.rep fits
  have hfl := fits.fromLt
  have htl := fits.toLt
  obtain ⟨k, hk, hbk, htz1, htz2⟩ := pre_king_square wf fits
  have hkto : k = m.toSq := by
    obtain ⟨k', _, _, hu⟩ := wf'.king_unique g.white
    exact (hu k hk hbk).trans (hu _ htl hbto).symm
  subst hkto
  have hocc1 : (makePre g m).allOcc = setBit (unsetBit g.allOcc m.fromSq) m.toSq := by
    rw [(makePre_occ g m).2.2, hc]; rfl
  -- Attackers do not move; the king's move empties its home square and fills the target. `attack_transfer_board` carries an
  -- attack on a square of a set `S` to some square of `S`, if every square outside `S` that is empty in the one position is
  -- empty in the other. `ha` (`S` = the target): attacked before ⇒ attacked in the tested position. `hcc` (`S` = home and
  -- target): attacked in the tested position ⇒ one of the two attacked before, and the home square is safe. `hb`: attacked
  -- in the finished position ⇒ in the tested one (`castle_attack_pre`: the rook's hop opens no line onto the target).
  have ha : isSquareAttacked g m.toSq (!g.white) = true → isSquareAttacked (makePre g m) m.toSq (!g.white) = true := by
    intro h
    obtain ⟨k', hk', hS, hatt⟩ := attack_transfer_board wf.rep hpre m.toSq htl (!g.white) (fun t => t == m.toSq)
      (fun f X hX => (quiet_enemy_iff fits hc f X ((enemyP_iff_other _ X).2 hX)).2)
      (fun t ht hS hocc => by
        have hne : t ≠ m.toSq := fun h => by simp [h] at hS
        rw [hocc1, getBit_setBit_ne _ _ _ htl ht hne, getBit_unsetBit _ _ _ hfl ht, hocc]; rfl)
      (by simp) h
    have : k' = m.toSq := by simpa using hS
    rw [this] at hatt; exact hatt
  have hcc : isSquareAttacked (makePre g m) m.toSq (!g.white) = true →
      isSquareAttacked g m.toSq (!g.white) = true ∨ isSquareAttacked g m.fromSq (!g.white) = true := by
    intro h
    obtain ⟨k', hk', hS, hatt⟩ := attack_transfer_board hpre wf.rep m.toSq htl (!g.white) (fun t => t == m.fromSq || t == m.toSq)
      (fun f X hX => (quiet_enemy_iff fits hc f X ((enemyP_iff_other _ X).2 hX)).1)
      (fun t ht hS hocc => by
        simp only [Bool.or_eq_false_iff, beq_eq_false_iff_ne, ne_eq] at hS
        rwa [hocc1, getBit_setBit_ne _ _ _ htl ht hS.2, getBit_unsetBit_ne _ _ _ hfl ht hS.1] at hocc)
      (by simp) h
    simp only [Bool.or_eq_true, beq_iff_eq] at hS
    rcases hS with hS | hS
    · right; rw [← hS]; exact hatt
    · left; rw [← hS]; exact hatt
  have hb : isSquareAttacked (makeForce g m) m.toSq (!g.white) = true → isSquareAttacked (makePre g m) m.toSq (!g.white) = true := by
    intro h
    obtain ⟨X, f, hX, hf, hbit, hatt⟩ := attacker_of_attacked _ m.toSq htl _ h
    have hX12 := ownP_lt hX
    have h1X := (pre_post_iff fits f X (Or.inl ((enemyP_iff_other _ X).2 hX))).2 ((wf'.bit_iff hX12 hf).1 hbit)
    have hatt1 := castle_attack_pre wf fits hcs X f hX12 hf hatt
    exact attacked_of_attacker _ m.toSq f X htl hf _ hX ((rep_bit_iff hpre hX12 hf).2 h1X) hatt1
  rw [isInCheck_eq, isInCheck_eq, htz1, htz2]
  exact ⟨⟨fun h => Bool.eq_false_iff.2 fun h' => Bool.eq_false_iff.1 h (ha h'),
      fun h => Bool.eq_false_iff.2 fun h' => (hcc h').elim (Bool.eq_false_iff.1 h) (Bool.eq_false_iff.1 hsafe)⟩,
    fun h => Bool.eq_false_iff.2 fun h' => Bool.eq_false_iff.1 h (hb h')⟩

end castle

/-- the numerals are the values of `Gen.CASTLE_WK_EMPTY`, `_WQ_`, `_BK_`, `_BQ_`; `specCastleOk_eq` ties them to the table
    rows by `change` -/
theorem castle_masks : ∀ t, t < 64 →
    getBit (6917529027641081856 : UInt64) t = (t == 61 || t == 62) ∧
    getBit (1008806316530991104 : UInt64) t = (t == 57 || t == 58 || t == 59) ∧
    getBit (96 : UInt64) t = (t == 5 || t == 6) ∧
    getBit (14 : UInt64) t = (t == 1 || t == 2 || t == 3) := by
  -- evaluated as one Boolean over the 64 squares: no nested decidability instance to elaborate
  have h : (List.range 64).all (fun t =>
      getBit (6917529027641081856 : UInt64) t == (t == 61 || t == 62) &&
      getBit (1008806316530991104 : UInt64) t == (t == 57 || t == 58 || t == 59) &&
      getBit (96 : UInt64) t == (t == 5 || t == 6) &&
      getBit (14 : UInt64) t == (t == 1 || t == 2 || t == 3)) = true := by decide +kernel
  intro t ht
  have := List.all_eq_true.1 h t (List.mem_range.2 ht)
  simp only [Bool.and_eq_true, beq_iff_eq] at this
  exact ⟨this.1.1.1, this.1.1.2, this.1.2, this.2⟩

section lists
variable {g : Game} {b : Board}

theorem occ_free (wf : Wf g b) (mask : UInt64) (l : List Nat) (hl : ∀ s ∈ l, s < 64)
    (hm : ∀ t, t < 64 → (getBit mask t = true ↔ t ∈ l)) :
    isEmpty (g.allOcc &&& mask) = l.all fun s => !Spec.occupiedIn (Spec.abs g) s := by
  rw [Bool.eq_iff_iff, isEmpty_and_iff, List.all_eq_true]
  simp only [Bool.not_eq_true']
  exact ⟨fun h s hs => by rw [abs_occupied wf s (hl s hs)]; exact h s (hl s hs) ((hm s (hl s hs)).2 hs),
    fun h t ht hmt => by rw [← abs_occupied wf t ht]; exact h t ((hm t ht).1 hmt)⟩

theorem castle_cond (wf : Wf g b) (r : CastleRow) (rsq K R : Nat) (l : List Nat) (by_ : Bool)
    (hlt : r.safe1 < 64 ∧ r.safe2 < 64 ∧ r.to < 64 ∧ rsq < 64 ∧ ∀ s ∈ l, s < 64)
    (hhome : g.castling &&& r.right ≠ 0 → b r.safe1 = some K ∧ b rsq = some R)
    (hmask : ∀ t, t < 64 → (getBit r.empty t = true ↔ t ∈ l)) :
    (g.castling &&& r.right != 0 && Spec.at_ (Spec.abs g) r.safe1 == some (pieceOf K) &&
        Spec.at_ (Spec.abs g) rsq == some (pieceOf R) && (l.all fun s => !Spec.occupiedIn (Spec.abs g) s) &&
        [r.safe1, r.safe2, r.to].all fun s => !Spec.attacked (Spec.abs g) s by_) =
      ((g.castling &&& r.right != 0 && isEmpty (g.allOcc &&& r.empty) && !isSquareAttacked g r.safe1 by_ &&
        !isSquareAttacked g r.safe2 by_) && !isSquareAttacked g r.to by_) := by
  obtain ⟨h1, h2, h3, h4, h5⟩ := hlt
  simp only [List.all_cons, List.all_nil, Bool.and_true]
  rw [← attacked_refines wf _ h1, ← attacked_refines wf _ h2, ← attacked_refines wf _ h3, occ_free wf _ l h5 hmask,
    abs_at wf _ h1, abs_at wf _ h4]
  cases hr : g.castling &&& r.right != 0
  · simp
  · obtain ⟨k1, k2⟩ := hhome (bne_iff_ne.1 hr)
    rw [k1, k2]
    simp only [Option.map_some, beq_self_eq_true, Bool.true_and, Bool.and_assoc]

theorem specCastleOk_eq (wf : Wf g b) (qs : Bool) :
    specCastleOk (Spec.abs g) qs = (castleOk g qs && !isSquareAttacked g (castleRow g.white qs).to (!g.white)) := by
  simp only [specCastleOk, castleOk]
  rw [show (Spec.abs g).white = g.white from rfl]
  cases g.white <;> cases qs
  · exact castle_cond wf (castleRow false false) 7 BK BR [5, 6] true (by decide) wf.ok.castle4
      (fun t ht => by change getBit (96 : UInt64) t = true ↔ _; rw [(castle_masks t ht).2.2.1]; simp)
  · exact castle_cond wf (castleRow false true) 0 BK BR [1, 2, 3] true (by decide) wf.ok.castle8
      (fun t ht => by change getBit (14 : UInt64) t = true ↔ _; rw [(castle_masks t ht).2.2.2]; simp [or_assoc])
  · exact castle_cond wf (castleRow true false) 63 WK WR [61, 62] false (by decide) wf.ok.castle1
      (fun t ht => by change getBit (6917529027641081856 : UInt64) t = true ↔ _; rw [(castle_masks t ht).1]; simp)
  · exact castle_cond wf (castleRow true true) 56 WK WR [57, 58, 59] false (by decide) wf.ok.castle2
      (fun t ht => by change getBit (1008806316530991104 : UInt64) t = true ↔ _; rw [(castle_masks t ht).2.1]; simp [or_assoc])

theorem smove_castleMove (w qs : Bool) : smove (castleMove w qs) = specCastleMove w qs := by
  cases w <;> cases qs <;> exact smove_mk _ _ _ _ _ _ _ _ (by decide) (by decide) (by decide) (by decide)

theorem castle_ok_iff (wf : Wf g b) (qs : Bool) :
    (specCastleOk (Spec.abs g) qs = true ∧
        (!Spec.inCheck (Spec.apply (Spec.abs g) (specCastleMove g.white qs)) g.white) = true) ↔
      (castleOk g qs = true ∧ (makeCore g (castleMove g.white qs)).isSome = true) := by
  rw [specCastleOk_eq wf qs, ← smove_castleMove]
  cases hok : castleOk g qs
  · simp
  · -- the move is generated, so it fits the board; the first square the generator tests is the king's home square
    obtain ⟨sh, hnc⟩ := castlingMoves_shape wf true _ (mem_castlingMoves.2 ⟨rfl, qs, hok, rfl⟩)
    have fits := sh.fits (fun hc => by rw [hnc] at hc; exact absurd hc (by simp))
    obtain ⟨e1, e2, _, e4⟩ := castleMove_fields g.white qs
    obtain ⟨hacc, hpost⟩ := castle_accept wf fits e4 (by rw [e1]; exact ((castleOk_iff g qs).1 hok).2.2.1)
    rw [e2] at hacc
    rw [← inCheck_board _ _ (apply_board wf fits sh.flags), ← inCheck_refines (makeForce_wf wf fits), makeCore_eq,
      makePre_white]
    cases h1 : isInCheck (makePre g (castleMove g.white qs)) g.white
    · simp [hacc.1 h1, hpost h1]
    · have h2 : isSquareAttacked g (castleRow g.white qs).to (!g.white) ≠ false := fun h => by
        rw [hacc.2 h] at h1; exact absurd h1 (by simp)
      simp [h2]

theorem castle_refines (wf : Wf g b) (sm : Spec.SMove) :
    sm ∈ (Spec.castlingMoves (Spec.abs g)).filter (fun sm => !Spec.inCheck (Spec.apply (Spec.abs g) sm) g.white) ↔
      ∃ m ∈ castlingMoves g true, smove m = sm ∧ (makeCore g m).isSome = true := by
  rw [List.mem_filter, mem_spec_castlingMoves]
  constructor
  · rintro ⟨⟨qs, hok, rfl⟩, hleg⟩
    obtain ⟨h1, h2⟩ := (castle_ok_iff wf qs).1 ⟨hok, hleg⟩
    exact ⟨castleMove g.white qs, mem_castlingMoves.2 ⟨rfl, qs, h1, rfl⟩, smove_castleMove _ _, h2⟩
  · rintro ⟨m, hm, rfl, hacc⟩
    obtain ⟨_, qs, hok, rfl⟩ := mem_castlingMoves.1 hm
    obtain ⟨h1, h2⟩ := (castle_ok_iff wf qs).2 ⟨hok, hacc⟩
    rw [smove_castleMove]
    exact ⟨⟨qs, h1, rfl⟩, h2⟩

theorem castle_refines_white (wf : Wf g b) (hw : g.white = true) (sm : Spec.SMove) :
    sm ∈ (Spec.castlingMoves (Spec.abs g)).filter (fun sm => !Spec.inCheck (Spec.apply (Spec.abs g) sm) g.white) ↔
      ∃ m ∈ castlingMoves g true, smove m = sm ∧ (makeCore g m).isSome = true := castle_refines wf sm

theorem castle_refines_black (wf : Wf g b) (hw : g.white = false) (sm : Spec.SMove) :
    sm ∈ (Spec.castlingMoves (Spec.abs g)).filter (fun sm => !Spec.inCheck (Spec.apply (Spec.abs g) sm) g.white) ↔
      ∃ m ∈ castlingMoves g true, smove m = sm ∧ (makeCore g m).isSome = true := castle_refines wf sm

end lists

end Jence
