/-
  Edge irrelevance: the ray loops of `rook_attacks_on_the_fly` / `bishop_attacks_on_the_fly` give the same set for an
  occupancy and for its part on the relevance mask (`rook_mask` / `bishop_mask`: the rays without their last square) -
  the last square of a ray is included whether or not it is occupied, and nothing lies beyond it. Sliders and masks are
  folds of one ray loop over a list of rays (`walkRays`, `maskRays`); the fact is proved for such lists.
-/
import Jence.Lemmas.BitAlgebra
import Jence.Model.Tables
namespace Jence
open Jence

/-- `y ⊆ M` as sets of squares -/
def SubBits (y M : UInt64) : Prop := ∀ t, t < 64 → getBit y t = true → getBit M t = true

theorem SubBits.or_left {y a : UInt64} (b : UInt64) (h : SubBits y a) : SubBits y (a ||| b) := by
  intro t ht hy; rw [getBit_or _ _ _ ht, h t ht hy]; rfl

theorem SubBits.or_right (a y : UInt64) : SubBits y (a ||| y) := by
  intro t ht hy; rw [getBit_or _ _ _ ht, hy]; simp

theorem SubBits.trans {x y z : UInt64} (h1 : SubBits x y) (h2 : SubBits y z) : SubBits x z := fun t ht hx => h2 t ht (h1 t ht hx)

theorem SubBits.refl (x : UInt64) : SubBits x x := fun _ _ h => h

theorem and_mask_and (occ M b : UInt64) (h : SubBits b M) : (occ &&& M) &&& b = occ &&& b := by
  apply ext_getBit
  intro t ht
  rw [getBit_and _ _ _ ht, getBit_and _ _ _ ht, getBit_and _ _ _ ht]
  cases hb : getBit b t
  · simp
  · rw [h t ht hb]; simp

/-- the bit the ray loops of `build.rs` reach at step `k` (from 0): `base` shifted by `d * (k + 1)`, towards lower squares if `up` -/
def stepBit (base : UInt64) (up : Bool) (d k : Nat) : UInt64 :=
  if up then base >>> (d * (k + 1)).toUInt64 else base <<< (d * (k + 1)).toUInt64

theorem rayMask_sub (base : UInt64) (up : Bool) (d : Nat) : ∀ (c k : Nat) (acc : UInt64),
    SubBits acc (rayMask base up d c k acc) ∧ ∀ j, k ≤ j → j < k + c → SubBits (stepBit base up d j) (rayMask base up d c k acc) := by
  intro c
  induction c with
  | zero => intro k acc; exact ⟨SubBits.refl _, fun j h1 h2 => by omega⟩
  | succ c ih =>
    intro k acc
    obtain ⟨h1, h2⟩ := ih (k + 1) (acc ||| (if up then base >>> (d * (k + 1)).toUInt64 else base <<< (d * (k + 1)).toUInt64))
    refine ⟨SubBits.trans (SubBits.or_left _ (SubBits.refl acc)) h1, fun j hj1 hj2 => ?_⟩
    by_cases hjk : j = k
    · subst hjk
      exact SubBits.trans (SubBits.or_right acc _) h1
    · exact h2 j (by omega) (by omega)

theorem rayWalk_mask (base occ M : UInt64) (up : Bool) (d : Nat) : ∀ (c k : Nat) (acc : UInt64),
    (∀ j, k ≤ j → j + 1 < k + c → SubBits (stepBit base up d j) M) →
    rayWalk base (occ &&& M) up d c k acc = rayWalk base occ up d c k acc := by
  intro c
  induction c with
  | zero => intro k acc _; rfl
  | succ c ih =>
    intro k acc h
    simp only [rayWalk]
    cases c with
    | zero => simp [rayWalk]
    | succ c =>
      have hs : SubBits (stepBit base up d k) M := h k (by omega) (by omega)
      unfold stepBit at hs
      rw [and_mask_and occ M _ hs]
      rw [ih (k + 1) _ (fun j h1 h2 => h j (by omega) (by omega))]

/-- a ray of the table generator's (`build.rs`) loops: towards lower squares?, stride in bit positions, number of steps -/
abbrev Ray := Bool × Nat × Nat

def walkRays (base occ : UInt64) (rays : List Ray) (acc : UInt64) : UInt64 :=
  rays.foldl (fun a r => rayWalk base occ r.1 r.2.1 r.2.2 0 a) acc

def maskRays (base : UInt64) (rays : List Ray) (acc : UInt64) : UInt64 :=
  rays.foldl (fun a r => rayMask base r.1 r.2.1 r.2.2 0 a) acc

def rookRays (sq : Nat) : List Ray := [(true, 1, sq % 8), (false, 1, 7 - sq % 8), (true, 8, sq / 8), (false, 8, 7 - sq / 8)]
def bishopRays (sq : Nat) : List Ray :=
  [(false, 9, min (7 - sq / 8) (7 - sq % 8)), (false, 7, min (7 - sq / 8) (sq % 8)),
   (true, 9, min (sq / 8) (sq % 8)), (true, 7, min (sq / 8) (7 - sq % 8))]
def Ray.shorten (r : Ray) : Ray := (r.1, r.2.1, r.2.2 - 1)

theorem rookOnTheFly_rays (sq : Nat) (occ : UInt64) : rookAttacksOnTheFly sq occ = walkRays (bit sq) occ (rookRays sq) 0 := rfl
theorem bishopOnTheFly_rays (sq : Nat) (occ : UInt64) : bishopAttacksOnTheFly sq occ = walkRays (bit sq) occ (bishopRays sq) 0 := rfl

theorem rookMaskOf_rays (sq : Nat) : rookMaskOf sq = maskRays (bit sq) ((rookRays sq).map Ray.shorten) 0 := by
  have h : ∀ x, 7 - x - 1 = 6 - x := fun x => by omega
  show _ = maskRays (bit sq) [(true, 1, sq % 8 - 1), (false, 1, 7 - sq % 8 - 1), (true, 8, sq / 8 - 1), (false, 8, 7 - sq / 8 - 1)] 0
  simp only [h]
  rfl

theorem bishopMaskOf_rays (sq : Nat) : bishopMaskOf sq = maskRays (bit sq) ((bishopRays sq).map Ray.shorten) 0 := by
  have h : ∀ x, 7 - x - 1 = 6 - x := fun x => by omega
  show _ = maskRays (bit sq) [(false, 9, min (7 - sq / 8) (7 - sq % 8) - 1), (false, 7, min (7 - sq / 8) (sq % 8) - 1),
    (true, 9, min (sq / 8) (sq % 8) - 1), (true, 7, min (sq / 8) (7 - sq % 8) - 1)] 0
  simp only [← Nat.sub_min_sub_right, h]
  rfl

theorem walkRays_cons (base occ : UInt64) (r : Ray) (rays : List Ray) (acc : UInt64) :
    walkRays base occ (r :: rays) acc = walkRays base occ rays (rayWalk base occ r.1 r.2.1 r.2.2 0 acc) := rfl

theorem maskRays_sub (base : UInt64) : ∀ (rays : List Ray) (acc : UInt64),
    SubBits acc (maskRays base rays acc) ∧
    ∀ m ∈ rays, ∀ j, j < m.2.2 → SubBits (stepBit base m.1 m.2.1 j) (maskRays base rays acc) := by
  intro rays
  induction rays with
  | nil => intro acc; exact ⟨SubBits.refl _, fun m hm => by simp at hm⟩
  | cons r rays ih =>
    intro acc
    obtain ⟨h1, h2⟩ := ih (rayMask base r.1 r.2.1 r.2.2 0 acc)
    obtain ⟨g1, g2⟩ := rayMask_sub base r.1 r.2.1 r.2.2 0 acc
    refine ⟨SubBits.trans g1 h1, fun m hm j hj => ?_⟩
    rcases List.mem_cons.1 hm with rfl | hm
    · exact SubBits.trans (g2 j (Nat.zero_le _) (by omega)) h1
    · exact h2 m hm j hj

theorem walkRays_mask (base occ M : UInt64) : ∀ (rays : List Ray),
    (∀ r ∈ rays, ∀ j, j + 1 < r.2.2 → SubBits (stepBit base r.1 r.2.1 j) M) →
    ∀ acc, walkRays base (occ &&& M) rays acc = walkRays base occ rays acc := by
  intro rays
  induction rays with
  | nil => intro _ acc; show acc = acc; rfl  -- a bare `rfl` first tries `occ &&& M =?= occ`, which is dear to refute
  | cons r rays ih =>
    intro h acc
    rw [walkRays_cons, walkRays_cons,
      rayWalk_mask base occ M r.1 r.2.1 r.2.2 0 acc (fun j _ hj => h r (List.mem_cons_self ..) j (by omega)),
      ih (fun r' hr' => h r' (List.mem_cons_of_mem _ hr'))]

theorem slider_mask_irrelevant (base occ : UInt64) (rays : List Ray) :
    walkRays base (occ &&& maskRays base (rays.map Ray.shorten) 0) rays 0 = walkRays base occ rays 0 :=
  walkRays_mask base occ _ rays (fun r hr j hj =>
    (maskRays_sub base (rays.map Ray.shorten) 0).2 r.shorten (List.mem_map_of_mem hr) j (by show j < r.2.2 - 1; omega)) 0

theorem rook_mask_irrelevant (sq : Nat) (occ : UInt64) :
    rookAttacksOnTheFly sq (occ &&& rookMaskOf sq) = rookAttacksOnTheFly sq occ := by
  rw [rookOnTheFly_rays, rookOnTheFly_rays, rookMaskOf_rays]
  exact slider_mask_irrelevant (bit sq) occ (rookRays sq)

theorem bishop_mask_irrelevant (sq : Nat) (occ : UInt64) :
    bishopAttacksOnTheFly sq (occ &&& bishopMaskOf sq) = bishopAttacksOnTheFly sq occ := by
  rw [bishopOnTheFly_rays, bishopOnTheFly_rays, bishopMaskOf_rays]
  exact slider_mask_irrelevant (bit sq) occ (bishopRays sq)

end Jence
