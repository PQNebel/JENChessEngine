/-
  What each primitive operation of `search.rs` does to the environment, as an equation to rewrite with: the result is
  the environment it received with the fields it can change taken from the result (`*_same`); `ev_eq` and `finish_eq`
  leave the new values unnamed instead, for a proof that goes on with the record. `poll_stopped` and `poll_running` are the two
  readings of `poll_input`, after a stop and before; `Polled` / `pollDue`: the poll test of `maybe_poll`. Then which cells of the PV table `insert_pv_node`
  writes (`pvInsert_getD`), and that `sort_moves` only reorders (`sortMoves_perm`).
-/
import Jence.Model.Search
import Jence.Lemmas.RepTable
namespace Jence
open Jence

/-- the current value of the node counter has been polled, if it is due and the search is running -/
def Polled (e : Env) : Prop := e.stopping = false → e.nodes &&& Gen.INPUT_POLL_INTERVAL = 0 → e.nodes ∈ e.pollLog

/-- the test of `maybe_poll`: the counter is a multiple of the poll interval, or an extra poll point (`cfg.subMask`) -/
def pollDue (cfg : Cfg) (n : Nat) : Bool :=
  (n &&& Gen.INPUT_POLL_INTERVAL == 0) || (match cfg.subMask with | some m => n &&& m == 0 | none => false)

section primitives
variable (cfg : Cfg) (e : Env)

theorem ev_same (w : List UInt64) (l : Unit → String) :
    e.ev cfg w l = { e with digest := (e.ev cfg w l).digest, events := (e.ev cfg w l).events, log := (e.ev cfg w l).log } := by
  unfold Env.ev
  split
  · rfl
  · split <;> rfl

theorem ev_eq (w : List UInt64) (l : Unit → String) :
    ∃ d n lg, e.ev cfg w l = { e with digest := d, events := n, log := lg } :=
  ⟨_, _, _, ev_same cfg e w l⟩

theorem ev_ply (w : List UInt64) (l : Unit → String) : (e.ev cfg w l).ply = e.ply := by
  rw [ev_same]

theorem onNode_same (k : Nat) (g : Game) (d : Nat) (a b : Int) : e.onNode cfg k g d a b =
    { e with digest := (e.onNode cfg k g d a b).digest, events := (e.onNode cfg k g d a b).events, log := (e.onNode cfg k g d a b).log } := by
  unfold Env.onNode
  split
  · rfl
  · exact ev_same ..

theorem onNode_stopping (cfg : Cfg) (e : Env) (k : Nat) (g : Game) (d : Nat) (a b : Int) :
    (e.onNode cfg k g d a b).stopping = e.stopping := by
  rw [onNode_same]

/-- the three things a poll can do with the line it read -/
def Env.afterRead (e2 : Env) (l : String) : Env.LineKind → Env
  | .isready => e2.print "readyok"
  | .stop => { e2 with stopping := true }
  | .other => { e2 with deferred := e2.deferred ++ [l], stopping := true }

theorem afterRead_eq (l : String) (k : Env.LineKind) : ∃ st ou lg de, (ou = e.out ∨ ou = e.out.push "readyok") ∧
    Env.afterRead e l k = { e with stopping := st, out := ou, log := lg, deferred := de } := by
  cases k with
  | isready => exact ⟨_, _, _, _, .inr rfl, rfl⟩
  | stop => exact ⟨_, _, _, _, .inl rfl, rfl⟩
  | other => exact ⟨_, _, _, _, .inl rfl, rfl⟩

theorem poll_stopped (hs : e.stopping = true) : e.poll cfg = e := by
  unfold Env.poll; rw [if_pos hs]

/-- `poll_input` of a running search as one equation, up to the ghost transcript fields -/
theorem poll_running (hrun : e.stopping = false) :
    ∃ d n lg, e.poll cfg =
      let e2 : Env := { e with polls := e.polls + 1, pollLog := e.pollLog.push e.nodes,
                               chan := e.chan ++ (cfg.world e.polls).lines, digest := d, events := n, log := lg }
      if cfg.maxTime != -1 && (cfg.maxTime == 0 || (cfg.world e.polls).deadline) then { e2 with stopping := true } else
      match e2.chan with
      | [] => e2
      | l :: rest => Env.afterRead { e2 with chan := rest } l.trimAscii.toString (Env.classifyLine l.trimAscii.toString) := by
  unfold Env.poll
  rw [if_neg (by simp [hrun])]
  simp only
  obtain ⟨d, n, lg, hev⟩ := ev_eq cfg ({ e with polls := e.polls + 1, pollLog := e.pollLog.push e.nodes, chan := e.chan ++ (cfg.world e.polls).lines } : Env)
    [9, e.nodes.toUInt64] (fun _ => s!"poll {e.nodes}")
  rw [hev]
  refine ⟨d, n, lg, ?_⟩
  split
  · rfl
  · simp only
    cases e.chan ++ (cfg.world e.polls).lines with
    | nil => rfl
    | cons l rest => simp only [Env.afterRead]; cases Env.classifyLine l.trimAscii.toString <;> rfl

theorem poll_running_eq (hrun : e.stopping = false) : ∃ ch dg n lg st ou de,
    (ou = e.out ∨ ou = e.out.push "readyok") ∧ e.poll cfg =
    { e with polls := e.polls + 1, pollLog := e.pollLog.push e.nodes, chan := ch, digest := dg, events := n, log := lg,
             stopping := st, out := ou, deferred := de } := by
  obtain ⟨d, n, lg, h⟩ := poll_running cfg e hrun
  rw [h]
  dsimp only
  split
  · exact ⟨_, _, _, _, _, _, _, .inl rfl, rfl⟩
  · split
    · exact ⟨_, _, _, _, _, _, _, .inl rfl, rfl⟩
    · obtain ⟨_, _, _, _, ho, h2⟩ := afterRead_eq (_ : Env) _ _
      rw [h2]; exact ⟨_, _, _, _, _, _, _, ho, rfl⟩

theorem poll_log (hrun : e.stopping = false) :
    (e.poll cfg).pollLog = e.pollLog.push e.nodes ∧ (e.poll cfg).nodes = e.nodes := by
  obtain ⟨_, _, _, _, _, _, _, _, h⟩ := poll_running_eq cfg e hrun
  rw [h]; exact ⟨rfl, rfl⟩

theorem maybePoll_def : e.maybePoll cfg = if pollDue cfg e.nodes then e.poll cfg else e := rfl

theorem polled_maybePoll : Polled (e.maybePoll cfg) := by
  rw [maybePoll_def]
  intro hs hd
  by_cases hdue : pollDue cfg e.nodes = true
  · rw [if_pos hdue] at hs hd ⊢
    have hrun : e.stopping = false := by
      cases h : e.stopping
      · rfl
      · rw [poll_stopped cfg e h, h] at hs; exact absurd hs (by decide)
    obtain ⟨h1, h2⟩ := poll_log cfg e hrun
    rw [h1, h2]; exact Array.mem_push_self
  · rw [if_neg hdue] at hd
    simp only [pollDue, Bool.or_eq_true, beq_iff_eq, not_or] at hdue
    exact absurd hd hdue.1

theorem maybePoll_same : e.maybePoll cfg =
    { e with polls := (e.maybePoll cfg).polls, pollLog := (e.maybePoll cfg).pollLog, chan := (e.maybePoll cfg).chan,
             digest := (e.maybePoll cfg).digest, events := (e.maybePoll cfg).events, log := (e.maybePoll cfg).log,
             stopping := (e.maybePoll cfg).stopping, out := (e.maybePoll cfg).out, deferred := (e.maybePoll cfg).deferred } := by
  rw [maybePoll_def]
  split
  · cases hs : e.stopping
    · obtain ⟨_, _, _, _, _, _, _, _, h⟩ := poll_running_eq cfg e hs; rw [h]
    · rw [poll_stopped cfg e hs]
  · rfl

theorem insertPv_same (m : Move) : e.insertPv cfg m =
    { e with postStopWrites := (e.insertPv cfg m).postStopWrites, digest := (e.insertPv cfg m).digest, events := (e.insertPv cfg m).events,
             log := (e.insertPv cfg m).log, pv := (Env.pvInsert e.pv e.pvLen e.ply m).1, pvLen := (Env.pvInsert e.pv e.pvLen e.ply m).2 } := by
  unfold Env.insertPv
  split <;> (dsimp only; rw [ev_same])

theorem ttRecord_same (k : UInt64) (s : Int) (d : Nat) (f : Flag) : e.ttRecord cfg k s d f =
    { e with postStopWrites := (e.ttRecord cfg k s d f).postStopWrites, digest := (e.ttRecord cfg k s d f).digest,
             events := (e.ttRecord cfg k s d f).events, log := (e.ttRecord cfg k s d f).log, tt := e.tt.record k s d f e.ply } := by
  unfold Env.ttRecord
  split <;> (dsimp only; rw [ev_same])

end primitives

theorem finish_eq (cfg : Cfg) (g : Game) (depth : Nat) (inCheck : Bool) (out : LoopOut) (e : Env) : ∃ w digest events log tt,
    (finish cfg g depth inCheck (out, e)).2 = { e with postStopWrites := w, digest := digest, events := events, log := log, tt := tt } := by
  cases out with
  | ret v => exact ⟨_, _, _, _, _, rfl⟩
  | done ta flag legal =>
    dsimp only [finish]
    split
    · rw [ev_same]; exact ⟨_, _, _, _, _, rfl⟩
    · rw [ttRecord_same]; exact ⟨_, _, _, _, _, rfl⟩

theorem scoreMove_same (g : Game) (m : Move) (e : Env) : (scoreMove g m e).2 = { e with scorePv := (scoreMove g m e).2.scorePv } := by
  unfold scoreMove
  split; · rfl
  split; · rfl
  split; · rfl
  split <;> rfl

theorem scoreAll_same (g : Game) (ms : List Move) (e : Env) (acc : Array (Int × Move)) :
    (scoreAll g ms e acc).2 = { e with scorePv := (scoreAll g ms e acc).2.scorePv } := by
  induction ms generalizing e acc with
  | nil => rfl
  | cons m ms ih =>
    dsimp only [scoreAll]
    rw [ih, scoreMove_same g m e]

theorem sortMoves_same (g : Game) (ms : List Move) (e : Env) :
    (sortMoves g ms e).2 = { e with scorePv := (sortMoves g ms e).2.scorePv } := scoreAll_same g ms e #[]

/-- the copy loop of `pvInsert` over the columns `l` -/
abbrev pvFold (p : Nat) (l : List Nat) (pv : Array Move) : Array Move :=
  l.foldl (fun pv i => let c := p + 1 + i; pv.setIfInBounds (p * 64 + c) (pv.getD ((p + 1) * 64 + c) Move.null)) pv

section fold
variable (p : Nat) (l : List Nat) (pv : Array Move)

theorem pvFold_size : (pvFold p l pv).size = pv.size := by
  induction l generalizing pv with
  | nil => rfl
  | cons i l ih => dsimp only [pvFold, List.foldl_cons] at ih ⊢; rw [ih, Array.size_setIfInBounds]

theorem pvFold_below (j : Nat) (hj : j ≤ p * 64 + p) :
    (pvFold p l pv).getD j Move.null = pv.getD j Move.null := by
  induction l generalizing pv with
  | nil => rfl
  | cons i l ih =>
    dsimp only [pvFold, List.foldl_cons] at ih ⊢
    rw [ih, getD_setIfInBounds, if_neg (by omega)]

/-- cell `j` of row `p` receives cell `j + 64`: same column, row `p + 1` -/
theorem pvFold_getD (hsz : pv.size = 4096) (hp : p ≤ 62) (hl : ∀ i ∈ l, p + 1 + i < 64)
    (j : Nat) : (pvFold p l pv).getD j Move.null =
      if (∃ i ∈ l, j = p * 64 + (p + 1 + i)) then pv.getD (j + 64) Move.null else pv.getD j Move.null := by
  induction l generalizing pv with
  | nil => simp [pvFold]
  | cons i l ih =>
    have hi := hl i List.mem_cons_self
    have hl' : ∀ k ∈ l, p + 1 + k < 64 := fun k hk => hl k (List.mem_cons_of_mem _ hk)
    dsimp only [pvFold, List.foldl_cons] at ih ⊢
    rw [ih _ (by rw [Array.size_setIfInBounds]; exact hsz) hl', getD_setIfInBounds, getD_setIfInBounds, hsz]
    simp only [List.mem_cons, exists_eq_or_imp]
    by_cases h1 : ∃ k ∈ l, j = p * 64 + (p + 1 + k)
    · -- a later column: the cell it reads (one row down) is not the one just written
      have hne : ¬ (p * 64 + (p + 1 + i) = j + 64 ∧ p * 64 + (p + 1 + i) < 4096) := by
        obtain ⟨k, hk, rfl⟩ := h1; have := hl' k hk; omega
      rw [if_pos h1, if_neg hne, if_pos (Or.inr h1)]
    · by_cases h2 : j = p * 64 + (p + 1 + i)
      · have h3 : p * 64 + (p + 1 + i) = j ∧ p * 64 + (p + 1 + i) < 4096 := ⟨h2.symm, by omega⟩
        rw [if_neg h1, if_pos h3, if_pos (Or.inl h2)]; congr 1; omega
      · have h3 : ¬ (p * 64 + (p + 1 + i) = j ∧ p * 64 + (p + 1 + i) < 4096) := fun h => h2 h.1.symm
        rw [if_neg h1, if_neg h3, if_neg (fun h => h.elim h2 h1)]

end fold

section insert
variable (pv : Array Move) (pvLen : Array Nat) (p : Nat) (m : Move)

theorem pvInsert_len :
    (Env.pvInsert pv pvLen p m).2 = pvLen.setIfInBounds p (pvLen.getD (p + 1) 0) := rfl

theorem pvInsert_size : (Env.pvInsert pv pvLen p m).1.size = pv.size := by
  show (pvFold p _ _).size = _
  rw [pvFold_size, Array.size_setIfInBounds]

theorem pvInsert_below (j : Nat) (hj : j < p * 64 + p) :
    (Env.pvInsert pv pvLen p m).1.getD j Move.null = pv.getD j Move.null := by
  show (pvFold p _ _).getD j _ = _
  rw [pvFold_below p _ _ j (by omega), getD_setIfInBounds, if_neg (by omega)]

/-- cell `(p, p)` receives the move, the cells `(p, c)`, `p < c < pvLen[p+1]`, the child's row; everything else stays -/
theorem pvInsert_getD (hsz : pv.size = 4096) (hp : p ≤ 62)
    (hn : pvLen.getD (p + 1) 0 ≤ 64) (j : Nat) :
    (Env.pvInsert pv pvLen p m).1.getD j Move.null =
      if j = p * 64 + p then m
      else if p * 64 + p < j ∧ j < p * 64 + pvLen.getD (p + 1) 0 then pv.getD (j + 64) Move.null
      else pv.getD j Move.null := by
  show (pvFold p (List.range (pvLen.getD (p + 1) 0 - (p + 1))) _).getD j _ = _
  generalize pvLen.getD (p + 1) 0 = n at hn
  rw [pvFold_getD p _ _ (by rw [Array.size_setIfInBounds]; exact hsz) hp (fun i hi => by rw [List.mem_range] at hi; omega),
    getD_setIfInBounds, getD_setIfInBounds, hsz]
  have h4 : (∃ i ∈ List.range (n - (p + 1)), j = p * 64 + (p + 1 + i)) ↔ (p * 64 + p < j ∧ j < p * 64 + n) :=
    ⟨by rintro ⟨i, hi, h⟩; rw [List.mem_range] at hi; omega, fun h => ⟨j - (p * 64 + p + 1), by rw [List.mem_range]; omega, by omega⟩⟩
  by_cases h1 : ∃ i ∈ List.range (n - (p + 1)), j = p * 64 + (p + 1 + i)
  · have hb := h4.1 h1
    have h3 : ¬ (p * 64 + p = j + 64 ∧ p * 64 + p < 4096) := by omega
    have h0 : ¬ j = p * 64 + p := by omega
    rw [if_pos h1, if_neg h3, if_neg h0, if_pos hb]
  · have hb : ¬ (p * 64 + p < j ∧ j < p * 64 + n) := fun h => h1 (h4.2 h)
    by_cases h0 : j = p * 64 + p
    · have h2 : p * 64 + p = j ∧ p * 64 + p < 4096 := ⟨h0.symm, by omega⟩
      rw [if_neg h1, if_pos h2, if_pos h0]
    · have h2 : ¬ (p * 64 + p = j ∧ p * 64 + p < 4096) := fun h => h0 h.1.symm
      rw [if_neg h1, if_neg h2, if_neg h0, if_neg hb]

theorem pvInsert_at :
    (Env.pvInsert pv pvLen p m).1.getD (p * 64 + p) Move.null = if p * 64 + p < pv.size then m else pv.getD (p * 64 + p) Move.null := by
  show (pvFold p _ _).getD _ _ = _
  rw [pvFold_below p _ _ _ (Nat.le_refl _), getD_setIfInBounds]
  simp only [true_and]

end insert

theorem swapIfInBounds_perm {α : Type} (xs : Array α) (i j : Nat) : (xs.swapIfInBounds i j).Perm xs := by
  rw [Array.swapIfInBounds_def]
  split
  · split
    · exact Array.swap_perm _ _
    · exact Array.Perm.refl _
  · exact Array.Perm.refl _

theorem sortInner_perm (i : Nat) : ∀ (c j : Nat) (a : Array (Int × Move)), (sortInner i c j a).Perm a := by
  intro c
  induction c with
  | zero => intro j a; exact Array.Perm.refl _
  | succ c ih =>
    intro j a
    simp only [sortInner]
    split
    · exact (ih _ _).trans (swapIfInBounds_perm a i j)
    · exact ih _ _

theorem sortOuter_perm : ∀ (c i : Nat) (a : Array (Int × Move)), (sortOuter c i a).Perm a := by
  intro c
  induction c with
  | zero => intro i a; exact Array.Perm.refl _
  | succ c ih =>
    intro i a
    exact (ih _ _).trans (sortInner_perm i _ _ a)

theorem scoreAll_moves (g : Game) : ∀ (ms : List Move) (e : Env) (acc : Array (Int × Move)),
    (scoreAll g ms e acc).1.toList.map (·.2) = acc.toList.map (·.2) ++ ms := by
  intro ms
  induction ms with
  | nil => intro e acc; simp [scoreAll]
  | cons m ms ih =>
    intro e acc
    simp only [scoreAll]
    rw [ih]
    simp

/-- **T6.2** `sort_moves` returns a permutation of the list it was given: no move is lost, invented or duplicated. -/
theorem sortMoves_perm (g : Game) (ms : List Move) (e : Env) : (sortMoves g ms e).1.Perm ms := by
  unfold sortMoves
  have h1 := scoreAll_moves g ms e #[]
  generalize scoreAll g ms e #[] = r at h1
  obtain ⟨scored, e'⟩ := r
  have hp := (Array.perm_iff_toList_perm.mp (sortOuter_perm scored.size 0 scored))
  have := hp.map (·.2)
  rw [h1] at this
  simpa using this

theorem sortMoves_mem (g : Game) (ms : List Move) (e : Env) (m : Move) : m ∈ (sortMoves g ms e).1 ↔ m ∈ ms :=
  (sortMoves_perm g ms e).mem_iff

end Jence
