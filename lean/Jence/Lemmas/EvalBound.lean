/-
  T16.4: the static evaluation stays below the mate range. The piece-square and bonus tables enter as ranges checked on
  the generated tables (`psq_bounds`: a re-tuned entry inside its range re-checks); the material weights and the scalar
  constants enter with their values (`scalar_bounds`, `side_sum_bound`), so re-tuning one of those means redoing the
  arithmetic here. Kings' material cancels when each side has exactly one king.
-/
import Jence.Lemmas.EvalTerms
import Jence.Lemmas.PextPdep
namespace Jence
open Jence

/-- one pass over the list, for the kernel -/
def tblIn (a : Array Int) (lo hi : Int) : Bool := a.toList.all fun x => decide (lo ≤ x) && decide (x ≤ hi)

/-- reads past the end give 0, hence `h0` -/
theorem tbl_bound (a : Array Int) (lo hi : Int) (h : tblIn a lo hi = true) (h0 : lo ≤ 0 ∧ 0 ≤ hi) (i : Nat) :
    lo ≤ tbl a i ∧ tbl a i ≤ hi := by
  unfold tbl
  rw [Array.getD_eq_getD_getElem?]
  by_cases hi' : i < a.size
  · rw [Array.getElem?_eq_getElem hi', Option.getD_some]
    have := List.all_eq_true.1 h a[i] (Array.getElem_mem_toList hi')
    simpa using this
  · rw [Array.getElem?_eq_none (by omega), Option.getD_none]; exact h0

theorem psq_bounds :
    tblIn Gen.PAWN_SCORES (-10) 90 = true ∧ tblIn Gen.KNIGHT_SCORES (-10) 30 = true ∧ tblIn Gen.BISHOP_SCORES (-10) 30 = true ∧
    tblIn Gen.ROOK_SCORES 0 50 = true ∧ tblIn Gen.KING_SCORES (-15) 20 = true ∧
    tblIn Gen.PASSED_WHITE_PAWN_BONUS 0 200 = true ∧ tblIn Gen.PASSED_BLACK_PAWN_BONUS 0 200 = true := by decide +kernel

/-- the scalar tuning constants, as ranges -/
theorem scalar_bounds :
    Gen.STACKED_PAWN_PENALTY = -10 ∧ Gen.ISOLATED_PAWN_PENALTY = -10 ∧ Gen.SEMI_OPEN_FILE_SCORE = 10 ∧
    Gen.OPEN_FILE_SCORE = 15 ∧ Gen.PROTECTED_KING_BONUS = 5 ∧
    Gen.MATERIAL_WEIGHTS = #[100, 300, 350, 500, 1000, 10000, -100, -300, -350, -500, -1000, -10000] := by decide

theorem popCount_int (b : UInt64) : (0 : Int) ≤ (popCount b : Int) ∧ (popCount b : Int) ≤ 64 := by have := popCount_le b; omega

theorem pawnT_bound (sq : Nat) (own enemy M : UInt64) (bonus : Array Int) (hb : ∀ i, 0 ≤ tbl bonus i ∧ tbl bonus i ≤ 200) :
    -650 ≤ pawnT sq own enemy M bonus ∧ pawnT sq own enemy M bonus ≤ 200 := by
  obtain ⟨c1, c2, _⟩ := scalar_bounds
  have h1 := popCount_int (own &&& FILE_MASKS.getD sq 0)
  have h2 := hb (Gen.LOOKUP_RANK.getD sq 0)
  unfold pawnT
  rw [c1, c2]
  split <;> split <;> split <;> omega

theorem fileT_bound (g : Game) (sq : Nat) (own : UInt64) : 0 ≤ fileT g sq own ∧ fileT g sq own ≤ 25 := by
  obtain ⟨_, _, c3, c4, _⟩ := scalar_bounds
  unfold fileT
  rw [c3, c4]
  split <;> split <;> omega

theorem pieceTerm_bound (g : Game) (p sq : Nat) (hp : p < 12) :
    tbl Gen.MATERIAL_WEIGHTS p - 1000 ≤ pieceTerm g p sq ∧ pieceTerm g p sq ≤ tbl Gen.MATERIAL_WEIGHTS p + 1000 := by
  obtain ⟨b1, b2, b3, b4, b5, b6, b7⟩ := psq_bounds
  obtain ⟨_, _, _, _, c5, _⟩ := scalar_bounds
  match p, hp with
  | 0, _ =>
    have := tbl_bound Gen.PAWN_SCORES (-10) 90 b1 (by decide) sq
    have := pawnT_bound sq (g.bb WP) (g.bb BP) (WHITE_PASSED_PAWN_MASKS.getD sq 0) _ (tbl_bound Gen.PASSED_WHITE_PAWN_BONUS 0 200 b6 (by decide))
    rw [pieceTerm_0]; omega
  | 1, _ =>
    have := tbl_bound Gen.KNIGHT_SCORES (-10) 30 b2 (by decide) sq
    have := popCount_int (getKnightAttacks sq)
    rw [pieceTerm_1]; omega
  | 2, _ =>
    have := tbl_bound Gen.BISHOP_SCORES (-10) 30 b3 (by decide) sq
    have := popCount_int (getBishopAttacks sq g.allOcc)
    rw [pieceTerm_2]; omega
  | 3, _ =>
    have := tbl_bound Gen.ROOK_SCORES 0 50 b4 (by decide) sq
    have := popCount_int (getRookAttacks sq g.allOcc)
    have := fileT_bound g sq (g.bb WP)
    rw [pieceTerm_3]; omega
  | 4, _ => have := popCount_int (getQueenAttacks sq g.allOcc); rw [pieceTerm_4]; omega
  | 5, _ =>
    have := tbl_bound Gen.KING_SCORES (-15) 20 b5 (by decide) sq
    have := popCount_int (getKingAttacks sq &&& g.whiteOcc)
    have := fileT_bound g sq (g.bb WP)
    rw [pieceTerm_5, c5]; omega
  | 6, _ =>
    have := tbl_bound Gen.PAWN_SCORES (-10) 90 b1 (by decide) (Gen.MIRRORED.getD sq 0)
    have := pawnT_bound sq (g.bb BP) (g.bb WP) (BLACK_PASSED_PAWN_MASKS.getD sq 0) _ (tbl_bound Gen.PASSED_BLACK_PAWN_BONUS 0 200 b7 (by decide))
    rw [pieceTerm_6]; omega
  | 7, _ =>
    have := tbl_bound Gen.KNIGHT_SCORES (-10) 30 b2 (by decide) (Gen.MIRRORED.getD sq 0)
    have := popCount_int (getKnightAttacks sq)
    rw [pieceTerm_7]; omega
  | 8, _ =>
    have := tbl_bound Gen.BISHOP_SCORES (-10) 30 b3 (by decide) (Gen.MIRRORED.getD sq 0)
    have := popCount_int (getBishopAttacks sq g.allOcc)
    rw [pieceTerm_8]; omega
  | 9, _ =>
    have := tbl_bound Gen.ROOK_SCORES 0 50 b4 (by decide) (Gen.MIRRORED.getD sq 0)
    have := popCount_int (getRookAttacks sq g.allOcc)
    have := fileT_bound g sq (g.bb BP)
    rw [pieceTerm_9]; omega
  | 10, _ => have := popCount_int (getQueenAttacks sq g.allOcc); rw [pieceTerm_10]; omega
  | 11, _ =>
    have := tbl_bound Gen.KING_SCORES (-15) 20 b5 (by decide) (Gen.MIRRORED.getD sq 0)
    have := popCount_int (getKingAttacks sq &&& g.blackOcc)
    have := fileT_bound g sq (g.bb BP)
    rw [pieceTerm_11, c5]; omega

def pieceCount (g : Game) (p : Nat) : Int := ((bitsOf (g.bb p)).length : Int)

/-- what the bound needs to know about the position: one king each and at most 15 other men a side (true of every
    position reachable by legal play) -/
structure MenOk (g : Game) : Prop where
  wk : pieceCount g WK = 1
  bk : pieceCount g BK = 1
  white : pieceCount g WP + pieceCount g WN + pieceCount g WB + pieceCount g WR + pieceCount g WQ ≤ 15
  black : pieceCount g BP + pieceCount g BN + pieceCount g BB + pieceCount g BR + pieceCount g BQ ≤ 15

/-- `-4500 = 15 * (100 - 1000) + 9000` (fifteen pawns), `41000 = 15 * (1000 + 1000) + 11000` (fifteen queens) -/
theorem side_sum_bound {cP cN cB cR cQ cK sP sN sB sR sQ sK : Int}
    (hK : cK = 1) (men : cP + cN + cB + cR + cQ ≤ 15)
    (kP : cP * (100 - 1000) ≤ sP ∧ sP ≤ cP * (100 + 1000)) (kN : cN * (300 - 1000) ≤ sN ∧ sN ≤ cN * (300 + 1000))
    (kB : cB * (350 - 1000) ≤ sB ∧ sB ≤ cB * (350 + 1000)) (kR : cR * (500 - 1000) ≤ sR ∧ sR ≤ cR * (500 + 1000))
    (kQ : cQ * (1000 - 1000) ≤ sQ ∧ sQ ≤ cQ * (1000 + 1000)) (kK : cK * (10000 - 1000) ≤ sK ∧ sK ≤ cK * (10000 + 1000)) :
    -4500 ≤ sP + sN + sB + sR + sQ + sK ∧ sP + sN + sB + sR + sQ + sK ≤ 41000 := by
  subst hK
  omega

theorem neg_bounds {c s a b : Int} (h : c * a ≤ s ∧ s ≤ c * b) : c * -b ≤ -s ∧ -s ≤ c * -a :=
  ⟨by rw [Int.mul_neg]; exact Int.neg_le_neg h.2, by rw [Int.mul_neg]; exact Int.neg_le_neg h.1⟩

theorem evalWhite_bound (g : Game) (h : MenOk g) : -45500 ≤ evalWhite g ∧ evalWhite g ≤ 45500 := by
  have k : ∀ p w, p < 12 → tbl Gen.MATERIAL_WEIGHTS p = w →
      pieceCount g p * (w - 1000) ≤ kindSum g p ∧ kindSum g p ≤ pieceCount g p * (w + 1000) := fun p w hp hw => by
    have := foldl_bound (bitsOf (g.bb p)) (pieceTerm g p) _ _ (fun sq _ => pieceTerm_bound g p sq hp) 0
    rw [Int.zero_add, Int.zero_add, hw] at this
    exact this
  -- for a black kind, whose material is `-w`, the same of the negative of its sum
  have kn : ∀ p w, p < 12 → tbl Gen.MATERIAL_WEIGHTS p = -w →
      pieceCount g p * (w - 1000) ≤ -kindSum g p ∧ -kindSum g p ≤ pieceCount g p * (w + 1000) := fun p w hp hw => by
    have := neg_bounds (k p _ hp hw)
    rwa [show -(-w + 1000) = w - 1000 by omega, show -(-w - 1000) = w + 1000 by omega] at this
  have w := side_sum_bound h.wk h.white
    (k 0 100 (by decide) rfl) (k 1 300 (by decide) rfl) (k 2 350 (by decide) rfl) (k 3 500 (by decide) rfl)
    (k 4 1000 (by decide) rfl) (k 5 10000 (by decide) rfl)
  have b := side_sum_bound h.bk h.black
    (kn 6 100 (by decide) rfl) (kn 7 300 (by decide) rfl) (kn 8 350 (by decide) rfl) (kn 9 500 (by decide) rfl)
    (kn 10 1000 (by decide) rfl) (kn 11 10000 (by decide) rfl)
  rw [evalWhite_eq, sum12]
  omega

/-- **T16.4** for every position with one king and at most fifteen other men a side, whoever is to move -/
theorem evaluate_bound (g : Game) (h : MenOk g) : -Gen.MATE_BOUND < evaluate g ∧ evaluate g < Gen.MATE_BOUND := by
  obtain ⟨h1, h2⟩ := evalWhite_bound g h
  have hb : (45500 : Int) < Gen.MATE_BOUND := by decide
  unfold evaluate
  split <;> constructor <;> omega

end Jence
