/-
  T16.3: the static evaluation gives the colour-mirrored position (ranks flipped, colours and mover swapped) the same
  value - for every position whose pawns stand on ranks 2-7 (the engine's "passed pawn" masks differ on the back ranks).
  Ranks are the chess ranks throughout: square 0 is a8, so rank 8 is squares 0..7 and ranks 2-7 are squares 8..55.
-/
import Jence.Lemmas.Flip
import Jence.Lemmas.EvalTerms
namespace Jence
open Jence

theorem mirrored_table : ∀ t, t < 64 → Gen.MIRRORED.getD t 0 = flipSq t := by decide +kernel

theorem material_table : ∀ p, p < 6 → tbl Gen.MATERIAL_WEIGHTS (p + 6) = - tbl Gen.MATERIAL_WEIGHTS p := by decide +kernel

theorem fileMask_flip : ∀ f, f < 8 → flipBB (fileMaskOf f) = fileMaskOf f := by decide +kernel

theorem knight_table (t : Nat) (ht : t < 64) : popCount (getKnightAttacks (flipSq t)) = popCount (getKnightAttacks t) := by
  rw [knight_isLeaper.flip knight_isLeaper (by decide) (by decide) t ht, popCount_flipBB]

theorem king_table (t : Nat) (ht : t < 64) : getKingAttacks (flipSq t) = flipBB (getKingAttacks t) :=
  king_isLeaper.flip king_isLeaper (by decide) (by decide) t ht

theorem fileMask_getD (t : Nat) (ht : t < 64) : FILE_MASKS.getD t 0 = fileMaskOf (t % 8) := by
  rw [FILE_MASKS, getD_map_range fileMaskOf t ht]
  unfold fileMaskOf
  rw [Nat.mod_mod]

theorem flipSq_mod (t : Nat) (ht : t < 64) : flipSq t % 8 = t % 8 := by unfold flipSq; omega

/-- `FILE_MASKS` under the mirror: the same entry, and every entry its own mirror image -/
theorem file_table (t : Nat) (ht : t < 64) : FILE_MASKS.getD (flipSq t) 0 = FILE_MASKS.getD t 0 ∧ flipBB (FILE_MASKS.getD t 0) = FILE_MASKS.getD t 0 := by
  rw [fileMask_getD _ (flipSq_lt t ht), fileMask_getD t ht, flipSq_mod t ht]
  exact ⟨rfl, fileMask_flip _ (Nat.mod_lt _ (by decide))⟩

theorem isolatedMask_eq (s : Nat) (hs : s < 64) : isolatedMaskOf s =
    ((if s % 8 > 0 then fileMaskOf (s % 8 - 1) else 0) ||| (if s % 8 < 7 then fileMaskOf (s % 8 + 1) else 0)) := by
  unfold isolatedMaskOf
  simp only
  congr 1
  · split
    · rw [fileMask_getD _ (by omega)]; congr 1; omega
    · rfl
  · split
    · rw [fileMask_getD _ (by omega)]; congr 1; omega
    · rfl

/-- `generate_rank_masks` as written: the entry the passed-pawn loops read, `RANK_MASKS[rr*8]`, is rank 8 (squares 0..7)
    or, past the table, empty: it has no square from 8 on -/
theorem rankMask_getD (rr : Nat) (u : Nat) (hu : u < 64) (h8 : 8 ≤ u) : getBit (RANK_MASKS.getD (rr * 8) 0) u = false := by
  by_cases h : rr * 8 < 64
  · rw [RANK_MASKS, getD_map_range rankMaskOf _ h]
    have e : rankMaskOf (rr * 8) = 0xFF := by
      unfold rankMaskOf
      rw [Nat.mul_mod_left]
      decide
    rw [e]
    exact getBit_of_toNat_lt 0xFF (by decide : (0xFF : UInt64).toNat < 2 ^ 8) h8 hu
  · have : RANK_MASKS.getD (rr * 8) 0 = 0 := by
      simp [RANK_MASKS, Array.getD_eq_getD_getElem?, h]
    rw [this, getBit_zero u hu]

theorem getBit_clearRows (rows : List Nat) (u : Nat) (hu : u < 64) (h8 : 8 ≤ u) : ∀ m, getBit (clearRows m rows) u = getBit m u := by
  induction rows with
  | nil => intro m; rfl
  | cons rr rows ih =>
    intro m
    show getBit (clearRows (m ^^^ (RANK_MASKS.getD (rr * 8) 0 &&& m)) rows) u = _
    rw [ih, getBit_xor _ _ _ hu, getBit_and _ _ _ hu, rankMask_getD rr u hu h8, Bool.false_and, Bool.xor_false]

theorem isolatedMask_flip (t : Nat) (ht : t < 64) :
    isolatedMaskOf (flipSq t) = isolatedMaskOf t ∧ flipBB (isolatedMaskOf t) = isolatedMaskOf t := by
  rw [isolatedMask_eq _ (flipSq_lt t ht), isolatedMask_eq t ht, flipSq_mod t ht, flipBB_or]
  refine ⟨rfl, ?_⟩
  congr 1
  · split
    · exact fileMask_flip _ (by omega)
    · exact flipBB_zero
  · split
    · exact fileMask_flip _ (by omega)
    · exact flipBB_zero

/-- `ISOLATED_MASKS` under the mirror, likewise -/
theorem isolated_table (t : Nat) (ht : t < 64) :
    ISOLATED_MASKS.getD (flipSq t) 0 = ISOLATED_MASKS.getD t 0 ∧ flipBB (ISOLATED_MASKS.getD t 0) = ISOLATED_MASKS.getD t 0 := by
  rw [ISOLATED_MASKS, getD_map_range _ _ (flipSq_lt t ht), getD_map_range _ _ ht]
  exact isolatedMask_flip t ht

/-- the two passed-pawn tables under the mirror: off the back ranks both masks are the three files -/
theorem passed_table (t : Nat) (ht : t < 64) (v : Nat) (hv : v < 56) (hv8 : 8 ≤ v) :
    getBit (BLACK_PASSED_PAWN_MASKS.getD (flipSq t) 0) (flipSq v) = getBit (WHITE_PASSED_PAWN_MASKS.getD t 0) v := by
  have hft := flipSq_lt t ht
  have hfv := flipSq_lt v (by omega)
  have hfv8 : 8 ≤ flipSq v := by unfold flipSq; omega
  rw [BLACK_PASSED_PAWN_MASKS, WHITE_PASSED_PAWN_MASKS, getD_map_range _ _ hft, getD_map_range _ _ ht]
  unfold blackPassedMaskOf whitePassedMaskOf
  rw [getBit_clearRows _ _ hfv hfv8, getBit_clearRows _ _ (by omega) hv8, (file_table t ht).1, (isolatedMask_flip t ht).1,
    ← getBit_flipBB _ _ (by omega), flipBB_or, (file_table t ht).2, (isolatedMask_flip t ht).2]

/-- the black passed-pawn bonus of the mirrored square is the white one -/
theorem bonus_table : ∀ t, t < 64 →
    tbl Gen.PASSED_BLACK_PAWN_BONUS (Gen.LOOKUP_RANK.getD (flipSq t) 0) = tbl Gen.PASSED_WHITE_PAWN_BONUS (Gen.LOOKUP_RANK.getD t 0) := by
  decide +kernel

theorem popCount_and_flip (x M : UInt64) (hM : flipBB M = M) : popCount (flipBB x &&& M) = popCount (x &&& M) := by
  rw [← popCount_flipBB (x &&& M), flipBB_and, hM]

theorem isEmpty_and_flip (x M : UInt64) (hM : flipBB M = M) : isEmpty (flipBB x &&& M) = isEmpty (x &&& M) := by
  rw [← isEmpty_flipBB (x &&& M), flipBB_and, hM]

theorem isEmpty_and_passed (x M M' : UInt64) (hx : ∀ v, v < 64 → getBit x v = true → 8 ≤ v ∧ v < 56)
    (hM : ∀ v, v < 56 → 8 ≤ v → getBit M' (flipSq v) = getBit M v) : isEmpty (flipBB x &&& M') = isEmpty (x &&& M) := by
  rw [Bool.eq_iff_iff, isEmpty_iff, isEmpty_iff, forall_flipSq (fun t => getBit (flipBB x &&& M') t = false)]
  refine forall_congr' fun v => forall_congr' fun hv => ?_
  rw [getBit_and _ _ _ (flipSq_lt v hv), getBit_flipBB _ _ (flipSq_lt v hv), flipSq_flipSq v hv, getBit_and _ _ _ hv]
  cases hxv : getBit x v with
  | false => simp
  | true => rw [hM v (hx v hv hxv).2 (hx v hv hxv).1]

/-- `g'` is the colour mirror of `g`: ranks flipped, colours and mover swapped -/
structure IsMirror (g g' : Game) : Prop where
  bb : ∀ p, p < 12 → g'.bb p = flipBB (g.bb ((p + 6) % 12))
  wocc : g'.whiteOcc = flipBB g.blackOcc
  bocc : g'.blackOcc = flipBB g.whiteOcc
  aocc : g'.allOcc = flipBB g.allOcc
  side : g'.white = !g.white

def PawnRows (g : Game) : Prop := ∀ v, v < 64 → (getBit (g.bb WP) v = true ∨ getBit (g.bb BP) v = true) → 8 ≤ v ∧ v < 56

theorem pawnT_mirror (t : Nat) (ht : t < 64) (own enemy M M' : UInt64) (bonus bonus' : Array Int)
    (henemy : ∀ v, v < 64 → getBit enemy v = true → 8 ≤ v ∧ v < 56)
    (hM : ∀ v, v < 56 → 8 ≤ v → getBit M' (flipSq v) = getBit M v)
    (hb : tbl bonus' (Gen.LOOKUP_RANK.getD (flipSq t) 0) = tbl bonus (Gen.LOOKUP_RANK.getD t 0)) :
    pawnT (flipSq t) (flipBB own) (flipBB enemy) M' bonus' = pawnT t own enemy M bonus := by
  obtain ⟨f1, f2⟩ := file_table t ht
  obtain ⟨i1, i2⟩ := isolated_table t ht
  unfold pawnT
  rw [f1, i1, hb, popCount_and_flip _ _ f2, isEmpty_and_flip _ _ i2, isEmpty_and_passed enemy M M' henemy hM]

theorem fileT_mirror (g g' : Game) (t : Nat) (ht : t < 64) (own : UInt64)
    (hp : g'.bb WP ||| g'.bb BP = flipBB (g.bb WP ||| g.bb BP)) :
    fileT g' (flipSq t) (flipBB own) = fileT g t own := by
  obtain ⟨f1, f2⟩ := file_table t ht
  unfold fileT
  rw [f1, hp, isEmpty_and_flip _ _ f2, isEmpty_and_flip _ _ f2]

section piece
variable {g g' : Game}

theorem IsMirror.pawns (hm : IsMirror g g') : g'.bb WP = flipBB (g.bb BP) ∧ g'.bb BP = flipBB (g.bb WP) :=
  ⟨hm.bb 0 (by decide), hm.bb 6 (by decide)⟩

theorem mirror_pawns (hm : IsMirror g g') : g'.bb WP ||| g'.bb BP = flipBB (g.bb WP ||| g.bb BP) := by
  rw [hm.pawns.1, hm.pawns.2, flipBB_or, UInt64.or_comm]

theorem IsMirror.symm (hm : IsMirror g g') : IsMirror g' g := by
  refine ⟨fun p hp => ?_, ?_, ?_, ?_, ?_⟩
  · have := hm.bb ((p + 6) % 12) (Nat.mod_lt _ (by decide))
    rw [this, flipBB_flipBB]; congr 1; omega
  · rw [hm.bocc, flipBB_flipBB]
  · rw [hm.wocc, flipBB_flipBB]
  · rw [hm.aocc, flipBB_flipBB]
  · rw [hm.side]; simp

theorem PawnRows.mirror (hm : IsMirror g g') (hp : PawnRows g) : PawnRows g' := by
  intro v hv h
  rw [hm.pawns.1, hm.pawns.2, getBit_flipBB _ _ hv, getBit_flipBB _ _ hv] at h
  have := hp (flipSq v) (flipSq_lt v hv) h.symm
  unfold flipSq at this; omega

theorem pieceTerm_mirror_white (hm : IsMirror g g') (hp : PawnRows g) (q t : Nat) (hq : q < 6) (ht : t < 64) :
    pieceTerm g' (q + 6) (flipSq t) = - pieceTerm g q t := by
  obtain ⟨hWP, hBP⟩ := hm.pawns
  have hmir' : Gen.MIRRORED.getD (flipSq t) 0 = t := by rw [mirrored_table _ (flipSq_lt t ht), flipSq_flipSq t ht]
  have hpw := mirror_pawns hm
  match q, hq with
  | 0, _ =>
    have : tbl Gen.MATERIAL_WEIGHTS 6 = - tbl Gen.MATERIAL_WEIGHTS 0 := material_table 0 (by decide)
    rw [pieceTerm_6, pieceTerm_0, hmir', hWP, hBP,
      pawnT_mirror t ht (g.bb WP) (g.bb BP) _ _ _ _ (fun v hv hb => hp v hv (Or.inr hb)) (passed_table t ht) (bonus_table t ht)]
    omega
  | 1, _ =>
    have : tbl Gen.MATERIAL_WEIGHTS 7 = - tbl Gen.MATERIAL_WEIGHTS 1 := material_table 1 (by decide)
    rw [pieceTerm_7, pieceTerm_1, hmir', knight_table t ht]; omega
  | 2, _ =>
    have : tbl Gen.MATERIAL_WEIGHTS 8 = - tbl Gen.MATERIAL_WEIGHTS 2 := material_table 2 (by decide)
    rw [pieceTerm_8, pieceTerm_2, hmir', hm.aocc, bishopAttacks_flip t ht, popCount_flipBB]; omega
  | 3, _ =>
    have : tbl Gen.MATERIAL_WEIGHTS 9 = - tbl Gen.MATERIAL_WEIGHTS 3 := material_table 3 (by decide)
    rw [pieceTerm_9, pieceTerm_3, hmir', hm.aocc, rookAttacks_flip t ht, popCount_flipBB, hBP, fileT_mirror g g' t ht _ hpw]; omega
  | 4, _ =>
    have : tbl Gen.MATERIAL_WEIGHTS 10 = - tbl Gen.MATERIAL_WEIGHTS 4 := material_table 4 (by decide)
    rw [pieceTerm_10, pieceTerm_4, hm.aocc, queenAttacks_flip t ht, popCount_flipBB]; omega
  | 5, _ =>
    have : tbl Gen.MATERIAL_WEIGHTS 11 = - tbl Gen.MATERIAL_WEIGHTS 5 := material_table 5 (by decide)
    rw [pieceTerm_11, pieceTerm_5, hmir', hBP, fileT_mirror g g' t ht _ hpw, hm.bocc, king_table t ht, ← flipBB_and, popCount_flipBB]
    omega

theorem pieceTerm_mirror (hm : IsMirror g g') (hp : PawnRows g) (q t : Nat) (hq : q < 12) (ht : t < 64) :
    pieceTerm g' ((q + 6) % 12) (flipSq t) = - pieceTerm g q t := by
  by_cases h6 : q < 6
  · rw [Nat.mod_eq_of_lt (by omega)]; exact pieceTerm_mirror_white hm hp q t h6 ht
  · -- a black piece: the white case for the mirror image, the mirror being an involution
    have := pieceTerm_mirror_white hm.symm (hp.mirror hm) (q - 6) (flipSq t) (by omega) (flipSq_lt t ht)
    rw [flipSq_flipSq t ht, show q - 6 + 6 = q by omega] at this
    rw [show (q + 6) % 12 = q - 6 by omega, this]; omega

end piece

theorem kindSum_mirror {g g' : Game} (hm : IsMirror g g') (hp : PawnRows g) (q : Nat) (hq : q < 12) :
    kindSum g' ((q + 6) % 12) = - kindSum g q := by
  unfold kindSum
  have hlt : (q + 6) % 12 < 12 := Nat.mod_lt _ (by decide)
  have hback : ((q + 6) % 12 + 6) % 12 = q := by omega
  rw [hm.bb _ hlt, hback, fold_flipBB]
  rw [fold_congr _ _ (fun sq => -(pieceTerm g q sq)) (fun sq hsq => pieceTerm_mirror hm hp q sq hq ((mem_bitsOf _ _).1 hsq).1)]
  exact fold_neg _ _

theorem evalWhite_mirror {g g' : Game} (hm : IsMirror g g') (hp : PawnRows g) : evalWhite g' = - evalWhite g := by
  rw [evalWhite_eq, evalWhite_eq, sum12, sum12]
  have h0 := kindSum_mirror hm hp 0 (by decide)
  have h1 := kindSum_mirror hm hp 1 (by decide)
  have h2 := kindSum_mirror hm hp 2 (by decide)
  have h3 := kindSum_mirror hm hp 3 (by decide)
  have h4 := kindSum_mirror hm hp 4 (by decide)
  have h5 := kindSum_mirror hm hp 5 (by decide)
  have h6 := kindSum_mirror hm hp 6 (by decide)
  have h7 := kindSum_mirror hm hp 7 (by decide)
  have h8 := kindSum_mirror hm hp 8 (by decide)
  have h9 := kindSum_mirror hm hp 9 (by decide)
  have h10 := kindSum_mirror hm hp 10 (by decide)
  have h11 := kindSum_mirror hm hp 11 (by decide)
  simp only [Nat.reduceAdd, Nat.reduceMod] at h0 h1 h2 h3 h4 h5 h6 h7 h8 h9 h10 h11
  omega

/-- **T16.3** the colour-mirrored position has the same static evaluation -/
theorem evaluate_mirror {g g' : Game} (hm : IsMirror g g') (hp : PawnRows g) : evaluate g' = evaluate g := by
  unfold evaluate
  rw [hm.side, evalWhite_mirror hm hp]
  cases g.white <;> simp

/-- the fields the evaluation does not read are kept -/
def mirror (g : Game) : Game :=
  { g with bbs := (Array.range 12).map fun p => flipBB (g.bb ((p + 6) % 12)),
           whiteOcc := flipBB g.blackOcc, blackOcc := flipBB g.whiteOcc, allOcc := flipBB g.allOcc, white := !g.white }

theorem mirror_isMirror (g : Game) : IsMirror g (mirror g) := by
  refine ⟨fun p hp => ?_, rfl, rfl, rfl, rfl⟩
  unfold mirror Game.bb
  simp [Array.getD_eq_getD_getElem?, hp]

end Jence
