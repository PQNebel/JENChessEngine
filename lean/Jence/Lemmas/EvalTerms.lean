/-
  The per-piece term of the static evaluation, arm by arm: `pieceTerm g p sq` for each of the twelve kinds, with its
  pawn-structure and file parts named (`pawnT`, `fileT`), so that proofs about the evaluation need not unfold `pieceTerm`.
-/
import Jence.Model.Eval
import Jence.Lemmas.ListExtra
namespace Jence
open Jence

/-- `pawnTerms` of `pieceTerm`: stacked, isolated, passed -/
def pawnT (sq : Nat) (own enemy passedMask : UInt64) (bonus : Array Int) : Int :=
  (if popCount (own &&& FILE_MASKS.getD sq 0) > 1 then (popCount (own &&& FILE_MASKS.getD sq 0) : Int) * Gen.STACKED_PAWN_PENALTY else 0) +
  (if isEmpty (own &&& ISOLATED_MASKS.getD sq 0) then Gen.ISOLATED_PAWN_PENALTY else 0) +
  (if isEmpty (enemy &&& passedMask) then tbl bonus (Gen.LOOKUP_RANK.getD sq 0) else 0)

/-- `fileTerms` of `pieceTerm`: semi-open and open file -/
def fileT (g : Game) (sq : Nat) (own : UInt64) : Int :=
  (if isEmpty (own &&& FILE_MASKS.getD sq 0) then Gen.SEMI_OPEN_FILE_SCORE else 0) +
  (if isEmpty ((g.bb WP ||| g.bb BP) &&& FILE_MASKS.getD sq 0) then Gen.OPEN_FILE_SCORE else 0)

section terms
variable (g : Game) (sq : Nat)

theorem pieceTerm_0 : pieceTerm g 0 sq = tbl Gen.MATERIAL_WEIGHTS 0 + tbl Gen.PAWN_SCORES sq +
    pawnT sq (g.bb WP) (g.bb BP) (WHITE_PASSED_PAWN_MASKS.getD sq 0) Gen.PASSED_WHITE_PAWN_BONUS := rfl
theorem pieceTerm_1 : pieceTerm g 1 sq = tbl Gen.MATERIAL_WEIGHTS 1 + tbl Gen.KNIGHT_SCORES sq +
    (popCount (getKnightAttacks sq) : Int) := rfl
theorem pieceTerm_2 : pieceTerm g 2 sq = tbl Gen.MATERIAL_WEIGHTS 2 + tbl Gen.BISHOP_SCORES sq +
    (popCount (getBishopAttacks sq g.allOcc) : Int) := rfl
theorem pieceTerm_3 : pieceTerm g 3 sq = tbl Gen.MATERIAL_WEIGHTS 3 + tbl Gen.ROOK_SCORES sq +
    fileT g sq (g.bb WP) + (popCount (getRookAttacks sq g.allOcc) : Int) := rfl
theorem pieceTerm_4 : pieceTerm g 4 sq = tbl Gen.MATERIAL_WEIGHTS 4 +
    (popCount (getQueenAttacks sq g.allOcc) : Int) := rfl
theorem pieceTerm_5 : pieceTerm g 5 sq = tbl Gen.MATERIAL_WEIGHTS 5 + tbl Gen.KING_SCORES sq -
    fileT g sq (g.bb WP) + (popCount (getKingAttacks sq &&& g.whiteOcc) : Int) * Gen.PROTECTED_KING_BONUS := rfl
theorem pieceTerm_6 : pieceTerm g 6 sq = tbl Gen.MATERIAL_WEIGHTS 6 - tbl Gen.PAWN_SCORES (Gen.MIRRORED.getD sq 0) -
    pawnT sq (g.bb BP) (g.bb WP) (BLACK_PASSED_PAWN_MASKS.getD sq 0) Gen.PASSED_BLACK_PAWN_BONUS := rfl
theorem pieceTerm_7 : pieceTerm g 7 sq = tbl Gen.MATERIAL_WEIGHTS 7 - tbl Gen.KNIGHT_SCORES (Gen.MIRRORED.getD sq 0) -
    (popCount (getKnightAttacks sq) : Int) := rfl
theorem pieceTerm_8 : pieceTerm g 8 sq = tbl Gen.MATERIAL_WEIGHTS 8 - tbl Gen.BISHOP_SCORES (Gen.MIRRORED.getD sq 0) -
    (popCount (getBishopAttacks sq g.allOcc) : Int) := rfl
theorem pieceTerm_9 : pieceTerm g 9 sq = tbl Gen.MATERIAL_WEIGHTS 9 - tbl Gen.ROOK_SCORES (Gen.MIRRORED.getD sq 0) -
    fileT g sq (g.bb BP) - (popCount (getRookAttacks sq g.allOcc) : Int) := rfl
theorem pieceTerm_10 : pieceTerm g 10 sq = tbl Gen.MATERIAL_WEIGHTS 10 -
    (popCount (getQueenAttacks sq g.allOcc) : Int) := by
  unfold pieceTerm
  simp only []
theorem pieceTerm_11 : pieceTerm g 11 sq = tbl Gen.MATERIAL_WEIGHTS 11 - tbl Gen.KING_SCORES (Gen.MIRRORED.getD sq 0) +
    fileT g sq (g.bb BP) - (popCount (getKingAttacks sq &&& g.blackOcc) : Int) * Gen.PROTECTED_KING_BONUS := rfl

end terms

def kindSum (g : Game) (p : Nat) : Int := (bitsOf (g.bb p)).foldl (fun s sq => s + pieceTerm g p sq) 0

theorem evalWhite_eq (g : Game) : evalWhite g = ((List.range 12).map (kindSum g)).sum := by
  unfold evalWhite
  have gen : ∀ (l : List Nat) (init : Int),
      l.foldl (fun s p => (bitsOf (g.bb p)).foldl (fun s sq => s + pieceTerm g p sq) s) init = init + (l.map (kindSum g)).sum := by
    intro l
    induction l with
    | nil => intro init; simp
    | cons p l ih =>
      intro init
      simp only [List.foldl_cons, List.map_cons, List.sum_cons]
      rw [ih, fold_init]
      unfold kindSum; omega
  rw [gen]; omega

theorem sum12 (f : Nat → Int) : ((List.range 12).map f).sum =
    f 0 + f 1 + f 2 + f 3 + f 4 + f 5 + f 6 + f 7 + f 8 + f 9 + f 10 + f 11 := by
  have : List.range 12 = [0, 1, 2, 3, 4, 5, 6, 7, 8, 9, 10, 11] := by decide
  rw [this]
  simp only [List.map_cons, List.map_nil, List.sum_cons, List.sum_nil]
  omega

end Jence
