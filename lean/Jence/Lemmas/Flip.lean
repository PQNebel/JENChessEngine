/-
  The colour mirror of the board: ranks flipped (`flipSq`), a bit set flipped (`flipBB`), and how bit tests, set
  operations, emptiness, population counts and sums over the set bits behave under it. Slider lookups and leaper tables
  are equivariant.
-/
import Jence.Lemmas.AttackSym
import Jence.Lemmas.PextPdep
import Jence.Lemmas.ListExtra
namespace Jence
open Jence

/-- the square on the same file, with the rank mirrored (a8 = 0 … h1 = 63) -/
def flipSq (s : Nat) : Nat := 56 - 8 * (s / 8) + s % 8

theorem flipSq_lt (s : Nat) (h : s < 64) : flipSq s < 64 := by unfold flipSq; omega
theorem flipSq_flipSq (s : Nat) (h : s < 64) : flipSq (flipSq s) = s := by unfold flipSq; omega

def flipBB (b : UInt64) : UInt64 := Spec.toBits ((List.range 64).filter fun s => getBit b (flipSq s))

theorem getBit_flipBB (b : UInt64) (s : Nat) (hs : s < 64) : getBit (flipBB b) s = getBit b (flipSq s) := by
  unfold flipBB
  rw [getBit_toBits _ _ (fun t ht => by simp at ht; exact ht.1) hs]
  simp [hs]

theorem flipBB_and (a b : UInt64) : flipBB (a &&& b) = flipBB a &&& flipBB b := by
  apply ext_getBit; intro t ht
  rw [getBit_flipBB _ _ ht, getBit_and _ _ _ ht, getBit_flipBB _ _ ht, getBit_flipBB _ _ ht, getBit_and _ _ _ (flipSq_lt t ht)]

theorem flipBB_or (a b : UInt64) : flipBB (a ||| b) = flipBB a ||| flipBB b := by
  apply ext_getBit; intro t ht
  rw [getBit_flipBB _ _ ht, getBit_or _ _ _ ht, getBit_flipBB _ _ ht, getBit_flipBB _ _ ht, getBit_or _ _ _ (flipSq_lt t ht)]

theorem flipBB_flipBB (b : UInt64) : flipBB (flipBB b) = b := by
  apply ext_getBit; intro t ht
  rw [getBit_flipBB _ _ ht, getBit_flipBB _ _ (flipSq_lt t ht), flipSq_flipSq t ht]

theorem flipBB_zero : flipBB 0 = 0 := by
  apply ext_getBit; intro t ht
  rw [getBit_flipBB _ _ ht, getBit_zero _ ht, getBit_zero _ (flipSq_lt t ht)]

theorem forall_flipSq (P : Nat → Prop) : (∀ t, t < 64 → P t) ↔ ∀ t, t < 64 → P (flipSq t) :=
  ⟨fun h t ht => h _ (flipSq_lt t ht), fun h t ht => by rw [← flipSq_flipSq t ht]; exact h _ (flipSq_lt t ht)⟩

theorem isEmpty_flipBB (b : UInt64) : isEmpty (flipBB b) = isEmpty b := by
  rw [Bool.eq_iff_iff, isEmpty_iff, isEmpty_iff, forall_flipSq (fun t => getBit b t = false)]
  exact forall_congr' fun t => forall_congr' fun ht => by rw [getBit_flipBB _ _ ht]

theorem range_flip_perm : ((List.range 64).map flipSq).Perm (List.range 64) := by
  have hn : ((List.range 64).map flipSq).Nodup :=
    nodup_map_inj _ _ List.nodup_range fun a ha b hb h => by
      rw [← flipSq_flipSq a (List.mem_range.1 ha), h, flipSq_flipSq b (List.mem_range.1 hb)]
  rw [List.perm_ext_iff_of_nodup hn List.nodup_range]
  intro t
  rw [List.mem_map, List.mem_range]
  constructor
  · rintro ⟨s, hs, rfl⟩; exact flipSq_lt s (List.mem_range.1 hs)
  · intro ht; exact ⟨flipSq t, List.mem_range.2 (flipSq_lt t ht), flipSq_flipSq t ht⟩

theorem fold_flipBB (b : UInt64) (F : Nat → Int) (init : Int) :
    (bitsOf (flipBB b)).foldl (fun s sq => s + F sq) init = (bitsOf b).foldl (fun s sq => s + F (flipSq sq)) init := by
  rw [bitsOf_eq_filter, bitsOf_eq_filter, foldl_add_filter, foldl_add_filter]
  congr 1
  have h1 : ((List.range 64).map fun sq => if getBit (flipBB b) sq then F sq else 0) =
      ((List.range 64).map fun sq => if getBit b (flipSq sq) then F sq else 0) := by
    apply List.map_congr_left
    intro s hs
    rw [getBit_flipBB b s (List.mem_range.1 hs)]
  have h2 : ((List.range 64).map fun sq => if getBit b sq then F (flipSq sq) else 0) =
      (((List.range 64).map flipSq).map fun sq => if getBit b (flipSq sq) then F sq else 0) := by
    rw [List.map_map]
    apply List.map_congr_left
    intro s hs
    simp only [Function.comp]
    rw [flipSq_flipSq s (List.mem_range.1 hs)]
  rw [h1, h2]
  exact (sum_perm_int _ _ (range_flip_perm.map _)).symm

theorem popCount_flipBB (b : UInt64) : popCount (flipBB b) = popCount b := by
  rw [popCount_eq, popCount_eq, bitsOf_eq_filter, bitsOf_eq_filter]
  -- the set squares of the mirror image, mirrored, are a rearrangement of the set squares
  have := (range_flip_perm.filter (fun s => getBit b s)).length_eq
  rw [List.filter_map, List.length_map] at this
  rw [← this]
  congr 1
  exact List.filter_congr fun s hs => getBit_flipBB b s (List.mem_range.1 hs)

theorem onBoard_flip (f r : Int) : Spec.onBoard f (7 - r) = Spec.onBoard f r := by
  rw [Bool.eq_iff_iff, onBoard_iff, onBoard_iff]
  omega

theorem sqOf_flip (f r : Int) (h : Spec.onBoard f r = true) : Spec.sqOf f (7 - r) = flipSq (Spec.sqOf f r) := by
  rw [onBoard_iff] at h
  unfold Spec.sqOf flipSq
  omega

theorem walk_flip (occ occ' : Nat → Bool) (df dr : Int)
    (h : ∀ f r, Spec.onBoard f r = true → occ' (Spec.sqOf f (7 - r)) = occ (Spec.sqOf f r)) :
    ∀ (n : Nat) (f r : Int), Spec.walk occ' df (-dr) n f (7 - r) = (Spec.walk occ df dr n f r).map flipSq := by
  intro n
  induction n with
  | zero => intro f r; rfl
  | succ n ih =>
    intro f r
    simp only [Spec.walk]
    have e1 : 7 - r + -dr = 7 - (r + dr) := by omega
    rw [e1, onBoard_flip]
    by_cases hob : Spec.onBoard (f + df) (r + dr) = true
    · rw [if_pos hob, if_pos hob, h _ _ hob, sqOf_flip _ _ hob]
      split
      · rfl
      · rw [List.map_cons, ih]
    · rw [if_neg hob, if_neg hob]; rfl

theorem file_flip (s : Nat) (hs : s < 64) : Spec.fileOf (flipSq s) = Spec.fileOf s := by
  unfold Spec.fileOf flipSq; omega
theorem row_flip (s : Nat) (hs : s < 64) : Spec.rowOf (flipSq s) = 7 - Spec.rowOf s := by
  unfold Spec.rowOf flipSq; omega

theorem slide_flip_mem (occ : UInt64) (dirs : List (Int × Int)) (hd : ∀ d ∈ dirs, (d.1, -d.2) ∈ dirs) (s t : Nat) (hs : s < 64)
    (h : t ∈ Spec.slide (getBit occ) s dirs) : flipSq t ∈ Spec.slide (getBit (flipBB occ)) (flipSq s) dirs := by
  obtain ⟨d, hdm, hw⟩ := mem_slide.1 h
  refine mem_slide.2 ⟨(d.1, -d.2), hd d hdm, ?_⟩
  rw [file_flip s hs, row_flip s hs]
  rw [walk_flip (getBit occ) (getBit (flipBB occ)) d.1 d.2 (fun f r hob => by
    rw [getBit_flipBB _ _ (by rw [← onBoard_flip] at hob; exact sqOf_lt _ _ hob), sqOf_flip _ _ hob,
      flipSq_flipSq _ (sqOf_lt _ _ hob)])]
  exact List.mem_map_of_mem hw

theorem slide_flip (occ : UInt64) (dirs : List (Int × Int)) (hd : ∀ d ∈ dirs, (d.1, -d.2) ∈ dirs) (s : Nat) (hs : s < 64) :
    Spec.toBits (Spec.slide (getBit (flipBB occ)) (flipSq s) dirs) = flipBB (Spec.toBits (Spec.slide (getBit occ) s dirs)) := by
  apply ext_getBit
  intro u hu
  rw [getBit_flipBB _ _ hu, getBit_toBits _ _ (slide_lt _ _ _) hu, getBit_toBits _ _ (slide_lt _ _ _) (flipSq_lt u hu)]
  apply decide_eq_decide.2
  constructor
  · intro h
    have := slide_flip_mem (flipBB occ) dirs hd (flipSq s) u (flipSq_lt s hs) h
    rw [flipBB_flipBB, flipSq_flipSq s hs] at this
    exact this
  · intro h
    have := slide_flip_mem occ dirs hd s (flipSq u) hs h
    rw [flipSq_flipSq u hu] at this
    exact this

theorem IsSlider.flip {get : Nat → UInt64 → UInt64} {dirs : List (Int × Int)} (h : IsSlider get dirs)
    (hcl : ∀ d ∈ dirs, (d.1, -d.2) ∈ dirs) (s : Nat) (hs : s < 64) (occ : UInt64) :
    get (flipSq s) (flipBB occ) = flipBB (get s occ) := by
  rw [h _ (flipSq_lt s hs), h s hs]; exact slide_flip occ _ hcl s hs

theorem rookAttacks_flip (s : Nat) (hs : s < 64) (occ : UInt64) :
    getRookAttacks (flipSq s) (flipBB occ) = flipBB (getRookAttacks s occ) := rook_isSlider.flip (by decide) s hs occ

theorem bishopAttacks_flip (s : Nat) (hs : s < 64) (occ : UInt64) :
    getBishopAttacks (flipSq s) (flipBB occ) = flipBB (getBishopAttacks s occ) := bishop_isSlider.flip (by decide) s hs occ

theorem queenAttacks_flip (s : Nat) (hs : s < 64) (occ : UInt64) :
    getQueenAttacks (flipSq s) (flipBB occ) = flipBB (getQueenAttacks s occ) := queen_isSlider.flip (by decide) s hs occ

theorem jumps_flip_mem (offs offs' : List (Int × Int)) (hcl : ∀ d ∈ offs, (d.1, -d.2) ∈ offs') (s t : Nat) (hs : s < 64)
    (h : t ∈ Spec.jumps s offs) : flipSq t ∈ Spec.jumps (flipSq s) offs' := by
  obtain ⟨d, hd, hb, rfl⟩ := (mem_jumps s offs t).1 h
  have e : 7 - Spec.rowOf s + -d.2 = 7 - (Spec.rowOf s + d.2) := by omega
  refine (mem_jumps _ offs' _).2 ⟨_, hcl d hd, ?_, ?_⟩
  · rw [file_flip s hs, row_flip s hs, e, onBoard_flip]; exact hb
  · rw [file_flip s hs, row_flip s hs, e, sqOf_flip _ _ hb]

theorem IsLeaper.flip {get get' : Nat → UInt64} {offs offs' : List (Int × Int)} (h : IsLeaper get offs) (h' : IsLeaper get' offs')
    (hcl : ∀ d ∈ offs, (d.1, -d.2) ∈ offs') (hcl' : ∀ d ∈ offs', (d.1, -d.2) ∈ offs) (s : Nat) (hs : s < 64) :
    get' (flipSq s) = flipBB (get s) := by
  apply ext_getBit
  intro u hu
  have hfs := flipSq_lt s hs
  have hfu := flipSq_lt u hu
  rw [getBit_flipBB _ _ hu, Bool.eq_iff_iff, h'.mem _ u hfs hu, h.mem s _ hs hfu]
  constructor
  · intro hm
    have := jumps_flip_mem offs' offs hcl' (flipSq s) u hfs hm
    rwa [flipSq_flipSq s hs] at this
  · intro hm
    have := jumps_flip_mem offs offs' hcl s (flipSq u) hs hm
    rwa [flipSq_flipSq u hu] at this

end Jence
