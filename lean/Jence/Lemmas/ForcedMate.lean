/-
  T11.2 (part): a minimax value in one of the two mate ranges is `±(MATE_VALUE − (ply + n))` for an `n` within which the mate
  is forced (`MatesIn n` / `MatedIn n` mean within `n` plies: `MatesIn.mono`).
  `MatesIn` and `MatedIn` are defined over the moves the rules instance generates and `make` accepts, by recursion on the
  number of plies (the mover's moves and the replies counted alike) - no scores, no search. The static evaluation must
  stay inside `(−MATE_BOUND, MATE_BOUND)` on an invariant set of positions (for chess: T16.4 `eval_bounded`).
  T11.3 (part), `nVal_mate_in_one`: with a mating move at hand every nominal depth from 2 on gives `MATE_VALUE − 1`.
-/
import Jence.Lemmas.NVal
namespace Jence
open Jence

/-- the side to move is checkmated: in check, and no generated move can be made -/
def Mated (R : Rules) (g : Game) : Prop :=
  R.inCheck g = true ∧ ∀ m ∈ R.generate g true, R.make g m = none

mutual
  /-- the side to move is checkmated within `n` plies, whatever it plays -/
  def MatedIn (R : Rules) : Nat → Game → Prop
    | 0, g => Mated R g
    | n + 1, g => Mated R g ∨
        ((∃ m ∈ R.generate g true, ∃ c, R.make g m = some c) ∧
         ∀ m ∈ R.generate g true, ∀ c, R.make g m = some c → MatesIn R n c)
  /-- the side to move can force checkmate within `n` plies -/
  def MatesIn (R : Rules) : Nat → Game → Prop
    | 0, _ => False
    | n + 1, g => ∃ m ∈ R.generate g true, ∃ c, R.make g m = some c ∧ MatedIn R n c
end

theorem MatedIn.imp (R : Rules) {n n' : Nat} (h : ∀ c, MatesIn R n c → MatesIn R n' c) {g : Game}
    (hm : MatedIn R (n + 1) g) : MatedIn R (n' + 1) g := by
  rw [MatedIn] at hm ⊢
  exact hm.imp_right fun ⟨h1, h2⟩ => ⟨h1, fun m hm c hc => h c (h2 m hm c hc)⟩

theorem MatesIn.imp (R : Rules) {n n' : Nat} (h : ∀ c, MatedIn R n c → MatedIn R n' c) {g : Game}
    (hm : MatesIn R (n + 1) g) : MatesIn R (n' + 1) g := by
  rw [MatesIn] at hm ⊢
  obtain ⟨m, hm, c, hc, hd⟩ := hm
  exact ⟨m, hm, c, hc, h c hd⟩

theorem mate_succ (R : Rules) : ∀ n, (∀ g, MatedIn R n g → MatedIn R (n + 1) g) ∧ (∀ g, MatesIn R n g → MatesIn R (n + 1) g) := by
  intro n
  induction n with
  | zero => exact ⟨fun g h => by simp only [MatedIn] at h ⊢; exact Or.inl h, fun g h => by simp only [MatesIn] at h⟩
  | succ n ih => exact ⟨fun g => MatedIn.imp R ih.2, fun g => MatesIn.imp R ih.1⟩

theorem MatedIn.mono (R : Rules) {n n' : Nat} (h : n ≤ n') {g : Game} (hm : MatedIn R n g) : MatedIn R n' g := by
  induction h with
  | refl => exact hm
  | step _ ih => exact (mate_succ R _).1 g ih

theorem MatesIn.mono (R : Rules) {n n' : Nat} (h : n ≤ n') {g : Game} (hm : MatesIn R n g) : MatesIn R n' g := by
  induction h with
  | refl => exact hm
  | step _ ih => exact (mate_succ R _).2 g ih

/-- checkmate falls on an even ply for the side that is mated, on an odd one for the side that mates -/
theorem mate_parity (R : Rules) : ∀ k, (∀ g, MatedIn R (2 * k + 1) g → MatedIn R (2 * k) g) ∧
    (∀ g, MatesIn R (2 * k + 2) g → MatesIn R (2 * k + 1) g) := by
  intro k
  induction k with
  | zero =>
    have h0 : ∀ g, MatedIn R 1 g → MatedIn R 0 g := by
      intro g h
      rw [MatedIn] at h
      rcases h with h | ⟨⟨m, hm, c, hc⟩, h2⟩
      · simpa only [MatedIn] using h
      · have := h2 m hm c hc; simp only [MatesIn] at this
    exact ⟨h0, fun g => MatesIn.imp R h0⟩
  | succ k ih =>
    have h1 : ∀ g, MatedIn R (2 * (k + 1) + 1) g → MatedIn R (2 * (k + 1)) g := fun g => MatedIn.imp R ih.2
    exact ⟨h1, fun g => MatesIn.imp R h1⟩

theorem MatedIn.even (R : Rules) {n : Nat} {g : Game} (h : MatedIn R n g) : MatedIn R (2 * (n / 2)) g := by
  rcases Nat.mod_two_eq_zero_or_one n with h0 | h1
  · have : 2 * (n / 2) = n := by omega
    rw [this]; exact h
  · have e : n = 2 * (n / 2) + 1 := by omega
    rw [e] at h
    exact (mate_parity R (n / 2)).1 g h

theorem MatesIn.odd (R : Rules) {n : Nat} {g : Game} (h : MatesIn R n g) : MatesIn R (2 * ((n + 1) / 2) - 1) g := by
  rcases Nat.mod_two_eq_zero_or_one n with h0 | h1
  · cases n with
    | zero => simp only [MatesIn] at h
    | succ j =>
      -- n = j + 1 even, so j odd: j = 2 i + 1, n = 2 i + 2
      have e : j + 1 = 2 * (j / 2) + 2 := by omega
      have e2 : 2 * ((j + 1 + 1) / 2) - 1 = 2 * (j / 2) + 1 := by omega
      rw [e2]
      rw [e] at h
      exact (mate_parity R (j / 2)).2 g h
  · have : 2 * ((n + 1) / 2) - 1 = n := by omega
    rw [this]; exact h

/-- the evaluation stays out of the mate ranges on a set of positions closed under the moves -/
structure EvalInv (R : Rules) (P : Game → Prop) : Prop where
  step : ∀ g m c, P g → R.make g m = some c → P c
  bound : ∀ g, P g → -Gen.MATE_BOUND < R.evaluate g ∧ R.evaluate g < Gen.MATE_BOUND

theorem bestOf_bound (R : Rules) (V : Game → Int) (g : Game) (B : Int) (ms : List Move) (init : Int)
    (hi : -B < init ∧ init < B) (hV : ∀ m ∈ ms, ∀ c, R.make g m = some c → -B < V c ∧ V c < B) :
    -B < bestOf R V g ms init ∧ bestOf R V g ms init < B := by
  rw [bestOf_maxChild]
  cases h : maxChild R V g ms with
  | none => exact hi
  | some M =>
    obtain ⟨⟨m, hm, c, hc, rfl⟩, _⟩ := maxChild_some R V g ms M h
    have := hV m hm c hc
    simp only
    omega

theorem qVal_bound (R : Rules) (P : Game → Prop) (hI : EvalInv R P) (fuel : Nat) (g : Game) (ply : Nat) (hP : P g) :
    -Gen.MATE_BOUND < qVal R fuel g ply ∧ qVal R fuel g ply < Gen.MATE_BOUND := by
  induction fuel generalizing g ply with
  | zero => exact hI.bound g hP
  | succ fuel ih =>
    unfold qVal
    split
    · exact hI.bound g hP
    · exact bestOf_bound R _ g Gen.MATE_BOUND _ _ (hI.bound g hP) (fun m _ c hc => ih c (ply + 1) (hI.step g m c hP hc))

theorem mate_consts : (0 : Int) ≤ Gen.MATE_BOUND ∧ Gen.MATE_BOUND < Gen.MATE_VALUE := by decide

/-- **T11.2** (the value) where the evaluation stays out of the mate ranges, a value of `nVal` above `MATE_BOUND` is
    `MATE_VALUE − (ply + n)` with mate forced within `n` plies of the node, and one below `−MATE_BOUND` is
    `−MATE_VALUE + (ply + n)` with the side to move mated within `n`: the score counts plies from the root, the mate from
    the node -/
theorem nVal_mate (R : Rules) (P : Game → Prop) (hI : EvalInv R P) (H : List UInt64) (fuel : Nat) (g : Game) (depth ply : Nat)
    (hP : P g) :
    (nVal R H fuel g depth ply > Gen.MATE_BOUND →
        ∃ n : Nat, nVal R H fuel g depth ply = Gen.MATE_VALUE - ((ply + n : Nat) : Int) ∧ MatesIn R n g) ∧
    (nVal R H fuel g depth ply < -Gen.MATE_BOUND →
        ∃ n : Nat, nVal R H fuel g depth ply = -Gen.MATE_VALUE + ((ply + n : Nat) : Int) ∧ MatedIn R n g) := by
  obtain ⟨hb0, hbv⟩ := mate_consts
  induction fuel generalizing g depth ply with
  | zero =>
    rw [nVal]
    exact ⟨fun h => by omega, fun h => by omega⟩
  | succ fuel ih =>
    -- a draw, the evaluation and the capture-tree value lie outside both mate ranges
    have hev := hI.bound g hP
    have hq := qVal_bound R P hI qFuel g ply hP
    rcases nVal_cases R H fuel g depth ply with h | h | h | ⟨hcap, h⟩ <;> rw [h]
    · exact ⟨fun h => by omega, fun h => by omega⟩
    · exact ⟨fun h => by omega, fun h => by omega⟩
    · exact ⟨fun h => by omega, fun h => by omega⟩
    clear h
    generalize (if R.inCheck g = true then depth + 1 else depth) - 1 = d
    cases hmc : maxChild R (fun c => nVal R H fuel c d (ply + 1)) g (R.generate g true) with
    | none =>
      simp only
      by_cases hc : R.inCheck g = true
      · rw [if_pos hc]
        refine ⟨fun h => ?_, fun _ => ⟨0, rfl, hc, (maxChild_none_iff_make R _ g _).1 hmc⟩⟩
        -- a mated node never carries a positive mate score: the ply is below the cap
        have hM : Gen.MAX_PLY = 64 := rfl
        have h64 : (64 : Int) ≤ Gen.MATE_VALUE + Gen.MATE_BOUND := by decide
        omega
      · rw [if_neg hc]
        exact ⟨fun h => by omega, fun h => by omega⟩
    | some M =>
      simp only
      obtain ⟨⟨m, hm, c, hmk, hv⟩, hall⟩ := maxChild_some R _ g _ M hmc
      have hch := fun m' c' (hmk' : R.make g m' = some c') => ih c' d (ply + 1) (hI.step g m' c' hP hmk')
      refine ⟨fun h => ?_, fun h => ?_⟩
      · -- the best child is lost for its mover
        obtain ⟨n, hn, hd⟩ := (hch m c hmk).2 (by omega)
        exact ⟨n + 1, by rw [← hv, hn]; omega, m, hm, c, hmk, hd⟩
      · -- every child is won for its mover; the slowest of them sets the distance
        obtain ⟨n, hn, hd⟩ := (hch m c hmk).1 (by omega)
        refine ⟨n + 1, by rw [← hv, hn]; omega, Or.inr ⟨⟨m, hm, c, hmk⟩, fun m' hm' c' hmk' => ?_⟩⟩
        have hle := hall m' hm' c' hmk'
        obtain ⟨n', hn', hd'⟩ := (hch m' c' hmk').1 (by omega)
        exact MatesIn.mono R (by omega) hd'

theorem nVal_mated_child (R : Rules) (H : List UInt64) (fuel : Nat) (c : Game) (d : Nat) (hd : 1 ≤ d)
    (hm : Mated R c) (hH : H.contains c.key = false) (hhm : (c.halfMoves == 100) = false) :
    nVal R H (fuel + 1) c d 1 = -Gen.MATE_VALUE + 1 := by
  rw [nVal_interior R H fuel c d 1 (by rw [hH]; rfl) (by decide) (by rw [hhm, Bool.or_false]; exact beq_false_of_ne (by omega)),
    (maxChild_none_iff_make R _ c _).2 hm.2, if_pos hm.1]
  rfl

theorem nVal_mate_in_one (R : Rules) (P : Game → Prop) (hI : EvalInv R P) (H : List UInt64) (fuel : Nat) (g : Game)
    (depth : Nat) (hP : P g) (hd : 2 ≤ depth) (hhm : (g.halfMoves == 100) = false)
    (m : Move) (hm : m ∈ R.generate g true) (c : Game) (hmk : R.make g m = some c) (hmated : Mated R c)
    (hcH : H.contains c.key = false) (hchm : (c.halfMoves == 100) = false) :
    nVal R H (fuel + 2) g depth 0 = Gen.MATE_VALUE - 1 := by
  have hup := (nVal_mate R P hI H (fuel + 2) g depth 0 hP).1
  have hlow : Gen.MATE_VALUE - 1 ≤ nVal R H (fuel + 2) g depth 0 := by
    rw [nVal_interior R H (fuel + 1) g depth 0 rfl (by decide) (by rw [hhm, Bool.or_false]; exact beq_false_of_ne (by omega))]
    generalize hnd : (if R.inCheck g = true then depth + 1 else depth) = nDepth
    have hnd2 : 1 ≤ nDepth - 1 := by
      rw [← hnd]; split <;> omega
    cases hmc : maxChild R (fun c => nVal R H (fuel + 1) c (nDepth - 1) (0 + 1)) g (R.generate g true) with
    | none =>
      have := (maxChild_none_iff_make R _ g _).1 hmc m hm
      rw [hmk] at this; cases this
    | some M =>
      simp only
      have := (maxChild_some R _ g _ M hmc).2 m hm c hmk
      rw [nVal_mated_child R H fuel c (nDepth - 1) hnd2 hmated hcH hchm] at this
      omega
  have hb : Gen.MATE_BOUND < Gen.MATE_VALUE - 1 := by decide
  obtain ⟨n, hn, hd'⟩ := hup (by omega)
  cases n with
  | zero => simp only [MatesIn] at hd'
  | succ k =>
    omega

end Jence
