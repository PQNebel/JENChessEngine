/-
  The master invariant of the search: `Frame e e'` between the environment a piece of the search receives and the one
  it returns - ply and history restored, stop flag monotone, nothing sticks once stopping - unless the history array
  overflowed. The part that does not speak of the history array holds without the proviso: `Still`.
  What a frame does to the history array alone is `RepKeep` (`Lemmas/RepTable`; `Frame.repKeep`). The three ways down a
  ply and up again - the capture search pops after the call, the main search before it, the null move pushes nothing -
  are one lemma, `Frame.up`; with it `frame_steps` makes `Frame` an instance of the traversal. `search_frameCore` is the
  invariant of a whole `search` that did not overflow, from the fresh environment to the one returned.
-/
import Jence.Lemmas.Steps
namespace Jence
open Jence

/-- the conjuncts of the invariant (meaningful as long as the history array has not overflowed) -/
structure FrameCore (e e' : Env) : Prop where
  ply : e'.ply = e.ply
  repIndex : e'.rep.index = e.rep.index
  repPre : e'.rep.pre = e.rep.pre
  repSize : e'.rep.table.size = e.rep.table.size
  stopMono : e.stopping = true → e'.stopping = true
  /-- not `pvLen`: `afterProbe` resets the row length of its ply even when stopping -/
  frozen : e.stopping = true →
    e'.tt = e.tt ∧ e'.pv = e.pv ∧ e'.killers = e.killers ∧ e'.history = e.history ∧ e'.out = e.out ∧
    e'.chan = e.chan ∧ e'.deferred = e.deferred ∧ e'.polls = e.polls
  /-- frames below the root leave PV row 0 and its length alone -/
  row0 : 1 ≤ e.ply → (∀ c, c < 64 → e'.pv.getD c Move.null = e.pv.getD c Move.null) ∧ e'.pvLen.getD 0 0 = e.pvLen.getD 0 0
  nodesMono : e.nodes ≤ e'.nodes

/-- `Frame e e'`: overflow of the history array is sticky, and without it the core invariant holds -/
def Frame (e e' : Env) : Prop :=
  (e.rep.overflow = true → e'.rep.overflow = true) ∧ (e'.rep.overflow = false → FrameCore e e')

theorem FrameCore.refl (e : Env) : FrameCore e e :=
  ⟨rfl, rfl, rfl, rfl, id, fun _ => ⟨rfl, rfl, rfl, rfl, rfl, rfl, rfl, rfl⟩, fun _ => ⟨fun _ _ => rfl, rfl⟩, Nat.le_refl _⟩

theorem FrameCore.trans {a b c : Env} (h1 : FrameCore a b) (h2 : FrameCore b c) : FrameCore a c where
  ply := h2.ply.trans h1.ply
  repIndex := h2.repIndex.trans h1.repIndex
  repPre := h2.repPre.trans h1.repPre
  repSize := h2.repSize.trans h1.repSize
  stopMono := fun h => h2.stopMono (h1.stopMono h)
  frozen := fun h => by
    obtain ⟨a1, a2, a3, a4, a5, a6, a7, a8⟩ := h1.frozen h
    obtain ⟨b1, b2, b3, b4, b5, b6, b7, b8⟩ := h2.frozen (h1.stopMono h)
    exact ⟨b1.trans a1, b2.trans a2, b3.trans a3, b4.trans a4, b5.trans a5, b6.trans a6, b7.trans a7, b8.trans a8⟩
  row0 := fun h => by
    obtain ⟨a1, a2⟩ := h1.row0 h
    obtain ⟨b1, b2⟩ := h2.row0 (by rw [h1.ply]; exact h)
    exact ⟨fun c hc => (b1 c hc).trans (a1 c hc), b2.trans a2⟩
  nodesMono := Nat.le_trans h1.nodesMono h2.nodesMono

theorem Frame.refl (e : Env) : Frame e e := ⟨id, fun _ => FrameCore.refl e⟩

theorem Frame.repKeep {e e' : Env} (h : Frame e e') : RepKeep e.rep e'.rep :=
  ⟨h.1, fun ho => ⟨(h.2 ho).repIndex, (h.2 ho).repPre, (h.2 ho).repSize⟩⟩

theorem Frame.no_overflow {e e' : Env} (h : Frame e e') (ho : e'.rep.overflow = false) : e.rep.overflow = false :=
  h.repKeep.no_overflow ho

theorem Frame.trans {a b c : Env} (h1 : Frame a b) (h2 : Frame b c) : Frame a c :=
  ⟨fun h => h2.1 (h1.1 h), fun hc => (h1.2 (h2.no_overflow hc)).trans (h2.2 hc)⟩

/-- an update that leaves alone everything the invariant speaks of (the node counter may grow) -/
theorem Frame.of_same {e e' : Env} (hply : e'.ply = e.ply) (hrep : e'.rep = e.rep) (hstop : e'.stopping = e.stopping)
    (htt : e'.tt = e.tt) (hpv : e'.pv = e.pv) (hk : e'.killers = e.killers) (hh : e'.history = e.history)
    (hout : e'.out = e.out) (hchan : e'.chan = e.chan) (hdef : e'.deferred = e.deferred) (hpolls : e'.polls = e.polls)
    (hlen : e'.pvLen = e.pvLen) (hn : e.nodes ≤ e'.nodes) : Frame e e' := by
  refine ⟨fun h => by rw [hrep]; exact h, fun _ => ?_⟩
  exact ⟨hply, by rw [hrep], by rw [hrep], by rw [hrep], fun h => by rw [hstop]; exact h,
    fun _ => ⟨htt, hpv, hk, hh, hout, hchan, hdef, hpolls⟩, fun _ => ⟨fun _ _ => by rw [hpv], by rw [hlen]⟩, hn⟩

/-- an update made while the search is not stopping, touching neither ply, history array nor PV row 0 -/
theorem Frame.of_running {e e' : Env} (hrun : e.stopping = false) (hply : e'.ply = e.ply) (hrep : e'.rep = e.rep)
    (hrow : 1 ≤ e.ply → (∀ c, c < 64 → e'.pv.getD c Move.null = e.pv.getD c Move.null) ∧ e'.pvLen.getD 0 0 = e.pvLen.getD 0 0)
    (hn : e.nodes ≤ e'.nodes) : Frame e e' := by
  refine ⟨fun h => by rw [hrep]; exact h, fun _ => ?_⟩
  exact ⟨hply, by rw [hrep], by rw [hrep], by rw [hrep], fun h => by rw [hrun] at h; exact absurd h (by simp),
    fun h => by rw [hrun] at h; exact absurd h (by simp), hrow, hn⟩

/-- one ply down with some history array `r1` and up again with `r3`, which keeps the one the frame started with:
    `quiescence` pops on the way up, `negamax` has popped before it descends, the null move leaves the array alone -/
theorem Frame.up (e : Env) (r1 : RepTable) (e2 : Env) (r3 : RepTable) (h : Frame { e with ply := e.ply + 1, rep := r1 } e2)
    (ho : r3.overflow = e2.rep.overflow) (hr : RepKeep e.rep r3) : Frame e { e2 with ply := e2.ply - 1, rep := r3 } := by
  refine ⟨hr.1, fun hc => ?_⟩
  have core := h.2 (ho ▸ hc)
  obtain ⟨a1, a2, a3⟩ := hr.2 hc
  refine ⟨?_, a1, a2, a3, core.stopMono, core.frozen, fun h1 => core.row0 (by dsimp only; omega), core.nodesMono⟩
  have := core.ply; dsimp only at this ⊢; omega

theorem frame_steps (P : Prop) : Steps P Frame where
  refl := Frame.refl
  trans := Frame.trans
  ghost _ _ _ _ _ := Frame.of_same rfl rfl rfl rfl rfl rfl rfl rfl rfl rfl rfl rfl (Nat.le_refl _)
  pollRun _ _ _ _ _ _ _ _ _ hr _ := Frame.of_running hr rfl rfl (fun _ => ⟨fun _ _ => rfl, rfl⟩) (Nat.le_refl _)
  count _ _ := Frame.of_same rfl rfl rfl rfl rfl rfl rfl rfl rfl rfl rfl rfl (Nat.le_succ _)
  flags _ _ _ := Frame.of_same rfl rfl rfl rfl rfl rfl rfl rfl rfl rfl rfl rfl (Nat.le_refl _)
  pushPop e _ e2 _ h := Frame.up e _ e2 _ h rfl h.repKeep.pop
  pvLen e := by
    refine ⟨id, fun _ => ⟨rfl, rfl, rfl, rfl, id, fun _ => ⟨rfl, rfl, rfl, rfl, rfl, rfl, rfl, rfl⟩, fun h => ⟨fun _ _ => rfl, ?_⟩, Nat.le_refl _⟩⟩
    rw [getD_setIfInBounds, if_neg (by omega)]
  ttHit _ := Frame.of_same rfl rfl rfl rfl rfl rfl rfl rfl rfl rfl rfl rfl (Nat.le_refl _)
  child e k e2 _ h := Frame.up e _ e2 e2.rep h rfl ((RepTable.insert_moveBack e.rep k).trans h.repKeep)
  null e e2 _ h := Frame.up e e.rep e2 e2.rep h rfl h.repKeep
  pv e m hr := by
    refine Frame.of_running hr rfl rfl (fun h1 => ?_) (Nat.le_refl _)
    exact ⟨fun c hc => pvInsert_below _ _ _ _ c (by omega), by rw [pvInsert_len, getD_setIfInBounds, if_neg (by omega)]⟩
  tables _ _ _ hr := Frame.of_running hr rfl rfl (fun _ => ⟨fun _ _ => rfl, rfl⟩) (Nat.le_refl _)
  record _ _ _ _ _ hr := Frame.of_running hr rfl rfl (fun _ => ⟨fun _ _ => rfl, rfl⟩) (Nat.le_refl _)
  print _ _ hr := Frame.of_running hr rfl rfl (fun _ => ⟨fun _ _ => rfl, rfl⟩) (Nat.le_refl _)

/-- the invariant across the recursive call of the main search, whatever its arguments: what the walks of the helpers
    assume of `rec` and `negamax_frame` proves of `negamax` -/
def RecFrame (rec : Game → Nat → Int → Int → Env → Int × Env) : Prop := ∀ c d a b e, Frame e (rec c d a b e).2
/-- the same of the capture search (`quiescence_frame`) -/
def QRecFrame (rec : Game → Int → Int → Env → Int × Env) : Prop := ∀ c a b e, Frame e (rec c a b e).2

/-! In the instances of the traversal from here on, `frame_steps False` goes with `False.elim` for `hply`: with `P` false
    the steps ask for no ply bound, so the traversal need not know that `I` restores the ply. -/

theorem quiescence_frame (R : Rules) (cfg : Cfg) : ∀ fuel, QRecFrame (quiescence R cfg fuel) :=
  quiescence_steps (frame_steps False).toQSteps False.elim R cfg

theorem searchChild_frame (rec : Game → Nat → Int → Int → Env → Int × Env) (hrec : RecFrame rec) (c : Game) (m : Move)
    (searched depth nDepth : Nat) (inCheck : Bool) (ta beta : Int) (e : Env) :
    Frame e (searchChild rec c m searched depth nDepth inCheck ta beta e).2 :=
  searchChild_steps Frame.refl Frame.trans rec hrec c m searched depth nDepth inCheck ta beta e

/-- the second conjunct - a loop that ran to the end after a legal move was not stopped - is what `finish_frame` asks for -/
theorem moveLoop_frame (R : Rules) (cfg : Cfg) (rec : Game → Nat → Int → Int → Env → Int × Env) (hrec : RecFrame rec)
    (g : Game) (depth nDepth : Nat) (inCheck : Bool) (beta : Int) :
    ∀ (ms : List Move) (ta : Int) (flag : Flag) (legal searched : Nat) (e : Env), (0 < legal → e.stopping = false) →
      Frame e (moveLoop R cfg rec g depth nDepth inCheck beta ms ta flag legal searched e).2 ∧
      (∀ lg, (moveLoop R cfg rec g depth nDepth inCheck beta ms ta flag legal searched e).1.doneLegal = some lg →
        0 < lg → (moveLoop R cfg rec g depth nDepth inCheck beta ms ta flag legal searched e).2.stopping = false) :=
  fun ms ta flag legal searched e =>
    moveLoop_steps (frame_steps False) False.elim R cfg rec hrec g depth nDepth inCheck beta ms ta flag legal searched e False.elim

theorem nullMoveStep_frame (R : Rules) (rec : Game → Nat → Int → Int → Env → Int × Env) (hrec : RecFrame rec) (g : Game)
    (nDepth : Nat) (inCheck : Bool) (beta : Int) (e : Env) : Frame e (nullMoveStep R rec g nDepth inCheck beta e).2 :=
  nullMoveStep_steps (frame_steps False) R rec hrec g nDepth inCheck beta e False.elim

theorem finish_frame (cfg : Cfg) (g : Game) (depth : Nat) (inCheck : Bool) (out : LoopOut) (e : Env)
    (hs : ∀ lg, out.doneLegal = some lg → 0 < lg → e.stopping = false) :
    Frame e (finish cfg g depth inCheck (out, e)).2 :=
  finish_steps (frame_steps False) cfg g depth inCheck out e hs

theorem negamax_frame (R : Rules) (cfg : Cfg) : ∀ fuel, RecFrame (negamax R cfg fuel) :=
  negamax_steps (frame_steps False) False.elim R cfg

theorem idLoop_frame (R : Rules) (cfg : Cfg) (g : Game) :
    ∀ (count cur : Nat) (alpha beta score : Int) (e : Env), Frame e (idLoop R cfg g count cur alpha beta score e).2.2 :=
  idLoop_steps (frame_steps False) False.elim R cfg g

theorem search_frameCore (R : Rules) (cfg : Cfg) (g : Game) (depth : Int) (tt : TT) (rep : RepTable)
    (ho : (search R cfg g depth tt rep).2.rep.overflow = false) :
    FrameCore (Env.fresh tt rep) (search R cfg g depth tt rep).2 := by
  obtain ⟨_, _, _, _, he⟩ := search_eq R cfg g depth tt rep
  rw [he] at ho ⊢
  have c := (searchLoopEnd_steps (frame_steps False) False.elim R cfg g depth tt rep).2 ho
  generalize (searchLoopEnd R cfg g depth tt rep).2.2 = le at c ⊢
  -- the end hook and the `bestmove` line touch ghost fields and the output; the fresh environment is at ply 0, not stopping
  exact ⟨c.ply, c.repIndex, c.repPre, c.repSize, fun h => absurd h Bool.false_ne_true, fun h => absurd h Bool.false_ne_true,
    fun h => absurd h (Nat.not_succ_le_zero 0), c.nodesMono⟩

/-- what holds whether or not the history array overflowed. After a stop the flag stays up and table, PV, killers, history
    scores and printed output stay as they are: the fields T9.2 speaks of (`FrameCore.frozen` has the input side as well) -/
structure Still (e e' : Env) : Prop where
  nodes : e.nodes ≤ e'.nodes
  afterStop : e.stopping = true →
    e'.stopping = true ∧ e'.tt = e.tt ∧ e'.pv = e.pv ∧ e'.killers = e.killers ∧ e'.history = e.history ∧ e'.out = e.out

theorem Still.of_same {e e' : Env} (hstop : e'.stopping = e.stopping) (htt : e'.tt = e.tt) (hpv : e'.pv = e.pv)
    (hk : e'.killers = e.killers) (hh : e'.history = e.history) (hout : e'.out = e.out) (hn : e.nodes ≤ e'.nodes) : Still e e' :=
  ⟨hn, fun hs => ⟨hstop.trans hs, htt, hpv, hk, hh, hout⟩⟩

theorem Still.of_running {e e' : Env} (hr : e.stopping = false) (hn : e.nodes ≤ e'.nodes) : Still e e' :=
  ⟨hn, fun hs => absurd hs (by rw [hr]; decide)⟩

theorem still_steps (P : Prop) : Steps P Still where
  refl _ := .of_same rfl rfl rfl rfl rfl rfl (Nat.le_refl _)
  trans h1 h2 := ⟨Nat.le_trans h1.nodes h2.nodes, fun hs => by
    obtain ⟨a0, a1, a2, a3, a4, a5⟩ := h1.afterStop hs
    obtain ⟨b0, b1, b2, b3, b4, b5⟩ := h2.afterStop a0
    exact ⟨b0, b1.trans a1, b2.trans a2, b3.trans a3, b4.trans a4, b5.trans a5⟩⟩
  ghost _ _ _ _ _ := .of_same rfl rfl rfl rfl rfl rfl (Nat.le_refl _)
  pollRun _ _ _ _ _ _ _ _ _ hr _ := .of_running hr (Nat.le_refl _)
  count _ _ := .of_same rfl rfl rfl rfl rfl rfl (Nat.le_succ _)
  flags _ _ _ := .of_same rfl rfl rfl rfl rfl rfl (Nat.le_refl _)
  pushPop _ _ _ _ h := ⟨h.nodes, h.afterStop⟩
  pvLen _ := .of_same rfl rfl rfl rfl rfl rfl (Nat.le_refl _)
  ttHit _ := .of_same rfl rfl rfl rfl rfl rfl (Nat.le_refl _)
  child _ _ _ _ h := ⟨h.nodes, h.afterStop⟩
  null _ _ _ h := ⟨h.nodes, h.afterStop⟩
  pv _ _ hr := .of_running hr (Nat.le_refl _)
  tables _ _ _ hr := .of_running hr (Nat.le_refl _)
  record _ _ _ _ _ hr := .of_running hr (Nat.le_refl _)
  print _ _ hr := .of_running hr (Nat.le_refl _)

/-- T9.2 and T12.1b without the hypothesis on the history array that their statements in `Props/C09` and `Props/C12` carry -/
theorem negamax_still (R : Rules) (cfg : Cfg) (fuel : Nat) (g : Game) (depth : Nat) (alpha beta : Int) (e : Env) :
    Still e (negamax R cfg fuel g depth alpha beta e).2 := negamax_steps (still_steps False) False.elim R cfg fuel g depth alpha beta e

theorem quiescence_still (R : Rules) (cfg : Cfg) (fuel : Nat) (g : Game) (alpha beta : Int) (e : Env) :
    Still e (quiescence R cfg fuel g alpha beta e).2 := quiescence_steps (still_steps False).toQSteps False.elim R cfg fuel g alpha beta e

end Jence
