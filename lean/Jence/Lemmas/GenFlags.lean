/-
  The flags of a generated move are truthful: "en passant", "castling", "double push" are set exactly when the move is
  one by the rules' own description (a pawn stepping diagonally onto the empty en-passant square; a king stepping two
  files; a pawn stepping two rows).
-/
import Jence.Lemmas.GenFits
namespace Jence
open Jence

def kingOf (w : Bool) : Nat := if w then WK else BK

private theorem consts : WP = 0 ∧ BP = 6 ∧ WK = 5 ∧ BK = 11 := ⟨rfl, rfl, rfl, rfl⟩

theorem flags_mk {b : Board} {w : Bool} {ep : Nat} (f t p pr : Nat) (c d e k : Bool) (hf : f < 64) (ht : t < 64) (hp : p < 16) (hpr : pr < 16)
    (epIff : e = true ↔ (p = (if w then WP else BP) ∧ ep = t ∧ f % 8 ≠ t % 8 ∧ b t = none))
    (epRow : e = true → (w = true → f / 8 = t / 8 + 1) ∧ (w = false → f / 8 + 1 = t / 8))
    (castleIff : k = true ↔ (p = (if w then WK else BK) ∧ (t = f + 2 ∨ t + 2 = f)))
    (dpushIff : d = true ↔ (p = (if w then WP else BP) ∧ (t = f + 16 ∨ t + 16 = f))) :
    FlagsTrue b w ep (Move.mk' f t p pr c d e k) := by
  have h := mk_fields f t p pr c d e k hf ht hp hpr
  exact ⟨by rw [h.isEnpassant, h.piece, h.toSq, h.fromSq]; exact epIff, by rw [h.isEnpassant, h.toSq, h.fromSq]; exact epRow,
    by rw [h.isCastling, h.piece, h.toSq, h.fromSq]; exact castleIff, by rw [h.isDoublePush, h.piece, h.toSq, h.fromSq]; exact dpushIff⟩

/-- an unset flag by the shape's reason why the move is not of that kind, a set one by what the shape says of the squares -/
theorem Shape.flags {b : Board} {w : Bool} {ep : Nat} {m : Move} (s : Shape b w ep m) : FlagsTrue b w ep m := by
  have off : ∀ {P : Prop}, ¬ P → (false = true ↔ P) := iff_of_false Bool.false_ne_true
  have hP : (if w then WP else BP) < 16 := pawn_piece_lt _
  cases s with
  | simple f t p c hf ht hown _ _ _ hpawn hking =>
    exact flags_mk f t p PNONE c false false false hf ht (by have := ownP_lt hown; omega) (by decide)
      (epIff := off fun h => (hpawn h.1).2.2.1 h.2) (epRow := fun h => absurd h Bool.false_ne_true)
      (castleIff := off fun h => hking h.1 h.2) (dpushIff := off fun h => (hpawn h.1).2.2.2 h.2)
  | promo f t pr c hf ht _ hpr _ _ hne hnd =>
    exact flags_mk f t _ pr c false false false hf ht hP (promos_facts hpr).2.2.2.2.2.2.2
      (epIff := off fun h => hne h.2) (epRow := fun h => absurd h Bool.false_ne_true)
      (castleIff := off fun h => pawn_ne_king w h.1) (dpushIff := off fun h => hnd h.2)
  | dpush f t hf ht _ _ _ hw hb =>
    have h16 : t = f + 16 ∨ t + 16 = f := by cases w; exact Or.inl (hb rfl).1.symm; exact Or.inr (hw rfl).1
    exact flags_mk f t _ PNONE false true false false hf ht hP (by decide)
      (epIff := off fun h => by omega) (epRow := fun h => absurd h Bool.false_ne_true)
      (castleIff := off fun h => pawn_ne_king w h.1) (dpushIff := ⟨fun _ => ⟨rfl, h16⟩, fun _ => rfl⟩)
  | enpassant f hf hep _ hto _ _ hfile hrows =>
    -- one row apart is not two rows apart
    have h16 : ¬ (ep = f + 16 ∨ ep + 16 = f) := by cases w; have := hrows.2 rfl; omega; have := hrows.1 rfl; omega
    exact flags_mk f ep _ PNONE true false true false hf hep hP (by decide)
      (epIff := ⟨fun _ => ⟨rfl, rfl, hfile, hto⟩, fun _ => rfl⟩) (epRow := fun _ => hrows)
      (castleIff := off fun h => pawn_ne_king w h.1) (dpushIff := off fun h => h16 h.2)
  | castle t _ _ _ _ ht _ _ _ _ _ h2 =>
    exact flags_mk _ t _ PNONE false false false true (by cases w <;> decide) ht (by cases w <;> decide) (by decide)
      (epIff := off fun h => pawn_ne_king w h.1.symm) (epRow := fun h => absurd h Bool.false_ne_true)
      (castleIff := ⟨fun _ => ⟨rfl, h2⟩, fun _ => rfl⟩) (dpushIff := off fun h => pawn_ne_king w h.1.symm)

theorem gen_flags {g : Game} {b : Board} (wf : Wf g b) (all : Bool) : ∀ m ∈ generateMoves g all, FlagsTrue b g.white g.ep m :=
  fun m hm => (gen_Shape wf all m hm).flags

end Jence
