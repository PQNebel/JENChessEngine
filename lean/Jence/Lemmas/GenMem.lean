/-
  What the generator emits, said once: `generateMoves` as pawns ++ castling ++ one uniform family over the five other piece
  kinds, and membership in each part by the fields of the move. Nothing here assumes a consistent position. The lookup
  `attacksOf` that makes the five kinds one family is defined here; `Lemmas/AttackLookup` is about it.
-/
import Jence.Lemmas.BitScan
import Jence.Lemmas.MovePack
import Jence.Lemmas.ListExtra
import Jence.Model.MoveGen
namespace Jence
open Jence


/-- the flags of a move as the generator packs it: the source is a square, the target a `u8`, the piece fields are piece
    indices or "none" -/
theorem gen_mk_flags (f t p pr : Nat) (cap dbl ep cas : Bool) (hf : f ≤ 64) (ht : t ≤ 255) (hp : p ≤ 12) (hpr : pr ≤ 12) :
    (Move.mk' f t p pr cap dbl ep cas).isCapture = cap ∧ (Move.mk' f t p pr cap dbl ep cas).isDoublePush = dbl ∧
    (Move.mk' f t p pr cap dbl ep cas).isEnpassant = ep ∧ (Move.mk' f t p pr cap dbl ep cas).isCastling = cas :=
  mk_flags f t p pr cap dbl ep cas (by omega)

theorem pawn_own (w : Bool) : ownP w (if w then WP else BP) := ownP_ite w (by decide) (by decide)

theorem pawn_piece_le (w : Bool) : (if w then WP else BP) ≤ 12 := by cases w <;> decide

theorem pawn_piece_lt (w : Bool) : (if w then WP else BP) < 16 := Nat.lt_of_le_of_lt (pawn_piece_le w) (by decide)

/-- the attack set of piece `X` standing on `f`, as the generator and `is_square_attacked` look it up -/
def attacksOf (occ : UInt64) (X f : Nat) : UInt64 :=
  if X = WP then getPawnAttacks f true else if X = BP then getPawnAttacks f false
  else if X = WN ∨ X = BN then getKnightAttacks f else if X = WB ∨ X = BB then getBishopAttacks f occ
  else if X = WR ∨ X = BR then getRookAttacks f occ else if X = WQ ∨ X = BQ then getQueenAttacks f occ
  else getKingAttacks f

theorem attacksOf_table (occ : UInt64) (f : Nat) :
    attacksOf occ 0 f = getPawnAttacks f true ∧ attacksOf occ 6 f = getPawnAttacks f false ∧
    attacksOf occ 1 f = getKnightAttacks f ∧ attacksOf occ 7 f = getKnightAttacks f ∧
    attacksOf occ 2 f = getBishopAttacks f occ ∧ attacksOf occ 8 f = getBishopAttacks f occ ∧
    attacksOf occ 3 f = getRookAttacks f occ ∧ attacksOf occ 9 f = getRookAttacks f occ ∧
    attacksOf occ 4 f = getQueenAttacks f occ ∧ attacksOf occ 10 f = getQueenAttacks f occ ∧
    attacksOf occ 5 f = getKingAttacks f ∧ attacksOf occ 11 f = getKingAttacks f := by
  simp [attacksOf, WP, BP, WN, BN, WB, BB, WR, BR, WQ, BQ]

theorem attacksOf_pawn (occ : UInt64) (w : Bool) (f : Nat) : attacksOf occ (if w then WP else BP) f = getPawnAttacks f w := by
  cases w
  · exact (attacksOf_table occ f).2.1
  · exact (attacksOf_table occ f).1

theorem pawn_sideOff (w : Bool) : WP + sideOff w = if w then WP else BP := by cases w <;> rfl

theorem attacksOf_kinds (occ : UInt64) (w : Bool) :
    attacksOf occ (WN + sideOff w) = getKnightAttacks ∧ attacksOf occ (WB + sideOff w) = (fun f => getBishopAttacks f occ) ∧
    attacksOf occ (WR + sideOff w) = (fun f => getRookAttacks f occ) ∧
    attacksOf occ (WQ + sideOff w) = (fun f => getQueenAttacks f occ) ∧ attacksOf occ (WK + sideOff w) = getKingAttacks := by
  cases w <;> refine ⟨?_, ?_, ?_, ?_, ?_⟩ <;> funext f <;>
    simp [attacksOf, sideOff, WP, BP, WN, BN, WB, BB, WR, BR, WQ, BQ, WK]

theorem generateMoves_eq (g : Game) (all : Bool) :
    generateMoves g all =
      (bitsOf (g.bb (WP + sideOff g.white))).flatMap (pawnMoves g all) ++ castlingMoves g all ++
      [WN, WB, WR, WQ, WK].flatMap fun k => pieceMoves g all (k + sideOff g.white) (attacksOf g.allOcc (k + sideOff g.white)) := by
  obtain ⟨h1, h2, h3, h4, h5⟩ := attacksOf_kinds g.allOcc g.white
  simp only [List.flatMap_cons, List.flatMap_nil, List.append_nil, h1, h2, h3, h4, h5, ← List.append_assoc]
  rfl

theorem kind_pos_lt {k : Nat} (hk : k ∈ [WN, WB, WR, WQ, WK]) : 0 < k ∧ k < 6 := by
  simp only [List.mem_cons, List.not_mem_nil, or_false] at hk
  rcases hk with rfl | rfl | rfl | rfl | rfl <;> decide

theorem kind_own {k : Nat} (hk : k ∈ [WN, WB, WR, WQ, WK]) (w : Bool) : ownP w (k + sideOff w) :=
  (ownP_iff w _).2 ⟨k, (kind_pos_lt hk).2, rfl⟩

/-- what the generator emits for the non-pawn piece standing on `f` -/
def pieceInner (g : Game) (all : Bool) (piece : Nat) (att : Nat → UInt64) (f : Nat) : List Move :=
  (if all then (bitsOf (att f &&& ~~~ g.allOcc)).map fun t => Move.mk' f t piece PNONE false false false false else []) ++
  (bitsOf (att f &&& (if g.white then g.blackOcc else g.whiteOcc))).map fun t => Move.mk' f t piece PNONE true false false false

theorem pieceMoves_eq (g : Game) (all : Bool) (piece : Nat) (att : Nat → UInt64) :
    pieceMoves g all piece att = (bitsOf (g.bb piece)).flatMap (pieceInner g all piece att) := rfl

/-- one row forward for the side `w`, as the `u8` arithmetic of the generator computes it -/
def fwd (w : Bool) (s : Nat) : Nat := if w then u8sub8 s else u8add8 s

/-- `t` is not on the promotion row of side `w` -/
def NotLast (w : Bool) (t : Nat) : Prop := if w = true then t ≥ 8 else t ≤ 55

instance (w : Bool) (t : Nat) : Decidable (NotLast w t) := by unfold NotLast; infer_instance

/-- what a pawn stepping to `t` carries in its promotion field: "none", or on the last row one of the four pieces -/
def promoOpts (w : Bool) (t : Nat) : List Nat := if NotLast w t then [PNONE] else promos w

theorem mem_promoOpts {w : Bool} {t pr : Nat} :
    pr ∈ promoOpts w t ↔ (NotLast w t ∧ pr = PNONE) ∨ (¬ NotLast w t ∧ pr ∈ promos w) := by
  unfold promoOpts
  split <;> simp [*]

theorem fan_eq (w : Bool) (t : Nat) (F : Nat → Move) :
    (if NotLast w t then [F PNONE] else (promos w).map F) = (promoOpts w t).map F := by
  unfold promoOpts
  split <;> rfl

/-- the moves of the pawn on `f`: a step (push or capture, promoting on the last row), a double push, en passant -/
inductive PawnMove (g : Game) (all : Bool) (f : Nat) : Move → Prop
  | step (t pr : Nat) (c : Bool) :
      (c = false → all = true ∧ t = fwd g.white f ∧ getBit g.allOcc t = false) →
      (c = true → t < 64 ∧ getBit (getPawnAttacks f g.white) t = true ∧
        getBit (if g.white then g.blackOcc else g.whiteOcc) t = true) →
      pr ∈ promoOpts g.white t →
      PawnMove g all f (Move.mk' f t (if g.white then WP else BP) pr c false false false)
  | dpush : all = true → getBit g.allOcc (fwd g.white f) = false → NotLast g.white (fwd g.white f) →
      getBit g.allOcc (fwd g.white (fwd g.white f)) = false → f / 8 = (if g.white then 6 else 1) →
      PawnMove g all f (Move.mk' f (fwd g.white (fwd g.white f)) (if g.white then WP else BP) PNONE false true false false)
  | ep : g.ep ≠ SQNONE → (!isEmpty (getPawnAttacks f g.white &&& bit g.ep)) = true →
      PawnMove g all f (Move.mk' f g.ep (if g.white then WP else BP) PNONE true false true false)

/-- one row forward in square numbers, for a square that has a row ahead of it -/
def pstep (w : Bool) (s : Nat) : Nat := if w then s - 8 else s + 8

theorem fwd_eq (w : Bool) (s : Nat) (h : s < 64) (hw : w = true → 8 ≤ s) : fwd w s = pstep w s := by
  unfold fwd pstep u8sub8 u8add8; cases w
  · simp only [Bool.false_eq_true, if_false]; omega
  · have := hw rfl; simp only [if_true]; omega

theorem pawn_step (w : Bool) (f : Nat) (hrow : 8 ≤ f ∧ f < 56) : fwd w f = pstep w f ∧ pstep w f < 64 :=
  ⟨fwd_eq w f (by omega) (fun _ => hrow.1), by unfold pstep; split <;> omega⟩

theorem pawn_step2 (w : Bool) (f : Nat) (hrow : 8 ≤ f ∧ f < 56) (hL : NotLast w (pstep w f)) :
    fwd w (pstep w f) = pstep w (pstep w f) ∧ pstep w (pstep w f) < 64 := by
  have h1 := (pawn_step w f hrow).2
  unfold NotLast at hL
  refine ⟨fwd_eq w _ h1 (fun hw => by subst hw; exact hL), ?_⟩
  unfold pstep at hL ⊢
  cases w <;> simp only [Bool.false_eq_true, if_false, if_true] at hL ⊢ <;> omega

theorem fwd_le (w : Bool) (s : Nat) : fwd w s ≤ 255 := by unfold fwd u8sub8 u8add8; split <;> omega

theorem promos_le (w : Bool) : ∀ p ∈ promos w, p ≤ 12 := by cases w <;> decide

theorem promoOpts_le {w : Bool} {t pr : Nat} (h : pr ∈ promoOpts w t) : pr ≤ 12 := by
  rcases mem_promoOpts.1 h with ⟨_, rfl⟩ | ⟨_, h⟩
  · decide
  · exact promos_le _ _ h

theorem pawnQuiet_eq (g : Game) (f : Nat) : pawnQuiet g f =
    if (!getBit g.allOcc (fwd g.white f)) = true then
      ((promoOpts g.white (fwd g.white f)).map fun p =>
        Move.mk' f (fwd g.white f) (if g.white then WP else BP) p false false false false) ++
      (if NotLast g.white (fwd g.white f) ∧
          (!getBit g.allOcc (fwd g.white (fwd g.white f)) && f / 8 == (if g.white then 6 else 1)) = true
       then [Move.mk' f (fwd g.white (fwd g.white f)) (if g.white then WP else BP) PNONE false true false false] else [])
    else [] := by
  have h : pawnQuiet g f =
      if (!getBit g.allOcc (fwd g.white f)) = true then
        if NotLast g.white (fwd g.white f) then
          Move.mk' f (fwd g.white f) (if g.white then WP else BP) PNONE false false false false ::
            (if (!getBit g.allOcc (fwd g.white (fwd g.white f)) && f / 8 == (if g.white then 6 else 1)) = true
             then [Move.mk' f (fwd g.white (fwd g.white f)) (if g.white then WP else BP) PNONE false true false false] else [])
        else (promos g.white).map fun p => Move.mk' f (fwd g.white f) (if g.white then WP else BP) p false false false false
      else [] := rfl
  rw [h]
  unfold promoOpts
  by_cases hL : NotLast g.white (fwd g.white f)
  · simp only [hL, if_true, true_and, List.map_singleton, List.singleton_append]
  · simp only [hL, if_false, false_and, List.append_nil]

theorem pawnCaps_eq (g : Game) (f : Nat) : pawnCaps g f =
    (bitsOf (getPawnAttacks f g.white &&& (if g.white then g.blackOcc else g.whiteOcc))).flatMap fun t =>
      (promoOpts g.white t).map fun p => Move.mk' f t (if g.white then WP else BP) p true false false false := by
  exact List.flatMap_congr' fun t _ => fan_eq g.white t _

/-- one row of the generator's castling table: the right's bit, the squares that must be empty, the two squares that must
    not be attacked, the king's target square -/
structure CastleRow where
  right : Nat
  empty : UInt64
  /-- the king's home square (`castleMove_fields`: the move starts there): the generator tests that the king is not in check -/
  safe1 : Nat
  safe2 : Nat
  to : Nat

def castleRow : Bool → Bool → CastleRow
  | true, false => ⟨Gen.CASTLE_WK_RIGHT, Gen.CASTLE_WK_EMPTY, Gen.CASTLE_WK_SAFE1, Gen.CASTLE_WK_SAFE2, Gen.CASTLE_WK_TO⟩
  | true, true => ⟨Gen.CASTLE_WQ_RIGHT, Gen.CASTLE_WQ_EMPTY, Gen.CASTLE_WQ_SAFE1, Gen.CASTLE_WQ_SAFE2, Gen.CASTLE_WQ_TO⟩
  | false, false => ⟨Gen.CASTLE_BK_RIGHT, Gen.CASTLE_BK_EMPTY, Gen.CASTLE_BK_SAFE1, Gen.CASTLE_BK_SAFE2, Gen.CASTLE_BK_TO⟩
  | false, true => ⟨Gen.CASTLE_BQ_RIGHT, Gen.CASTLE_BQ_EMPTY, Gen.CASTLE_BQ_SAFE1, Gen.CASTLE_BQ_SAFE2, Gen.CASTLE_BQ_TO⟩

/-- the generator's test for castling to the king's side (`qs = false`) or the queen's side -/
def castleOk (g : Game) (qs : Bool) : Bool :=
  g.castling &&& (castleRow g.white qs).right != 0 && isEmpty (g.allOcc &&& (castleRow g.white qs).empty) &&
    !isSquareAttacked g (castleRow g.white qs).safe1 (!g.white) && !isSquareAttacked g (castleRow g.white qs).safe2 (!g.white)

theorem castleOk_iff (g : Game) (qs : Bool) : castleOk g qs = true ↔
    g.castling &&& (castleRow g.white qs).right ≠ 0 ∧ isEmpty (g.allOcc &&& (castleRow g.white qs).empty) = true ∧
    isSquareAttacked g (castleRow g.white qs).safe1 (!g.white) = false ∧
    isSquareAttacked g (castleRow g.white qs).safe2 (!g.white) = false := by
  simp only [castleOk, Bool.and_eq_true, bne_iff_ne, Bool.not_eq_true', and_assoc]

/-- the castling move of one table row; 60 and 4 are the kings' home squares, `Gen.CASTLE_WK_FROM` = `_WQ_FROM` and
    `Gen.CASTLE_BK_FROM` = `_BQ_FROM` -/
def castleMove (w qs : Bool) : Move :=
  Move.mk' (if w then 60 else 4) (castleRow w qs).to (if w then WK else BK) PNONE false false false true

theorem castleMove_fields (w qs : Bool) :
    (castleMove w qs).fromSq = (castleRow w qs).safe1 ∧ (castleMove w qs).toSq = (castleRow w qs).to ∧
    (castleMove w qs).isCapture = false ∧ (castleMove w qs).isCastling = true := by
  cases w <;> cases qs <;> decide

theorem castlingMoves_eq (g : Game) (all : Bool) : castlingMoves g all =
    if all = true then (if castleOk g false = true then [castleMove g.white false] else []) ++
      (if castleOk g true = true then [castleMove g.white true] else []) else [] := by
  unfold castlingMoves castleOk castleMove
  cases all <;> cases g.white <;> rfl

section parts
variable {g : Game} {all : Bool} {m : Move}

theorem mem_kinds_flatMap :
    (m ∈ [WN, WB, WR, WQ, WK].flatMap fun k =>
        pieceMoves g all (k + sideOff g.white) (attacksOf g.allOcc (k + sideOff g.white))) ↔
      ∃ X, ownP g.white X ∧ X ≠ (if g.white then WP else BP) ∧ m ∈ pieceMoves g all X (attacksOf g.allOcc X) := by
  rw [List.mem_flatMap, ← pawn_sideOff]
  constructor
  · rintro ⟨k, hk, hm⟩
    have hk' := kind_pos_lt hk
    exact ⟨_, kind_own hk _, fun h => by have := Nat.add_right_cancel h; rw [this] at hk'; exact absurd hk'.1 (by decide), hm⟩
  · rintro ⟨X, hX, hnp, hm⟩
    obtain ⟨k, hk, rfl⟩ := (ownP_iff _ _).1 hX
    refine ⟨k, ?_, hm⟩
    have hk0 : k ≠ 0 := fun h => hnp (by rw [h])
    have : k = 1 ∨ k = 2 ∨ k = 3 ∨ k = 4 ∨ k = 5 := by omega
    rcases this with rfl | rfl | rfl | rfl | rfl <;> decide

theorem mem_generateMoves :
    m ∈ generateMoves g all ↔
      (∃ f ∈ bitsOf (g.bb (if g.white then WP else BP)), m ∈ pawnMoves g all f) ∨ m ∈ castlingMoves g all ∨
      ∃ X, ownP g.white X ∧ X ≠ (if g.white then WP else BP) ∧ m ∈ pieceMoves g all X (attacksOf g.allOcc X) := by
  rw [generateMoves_eq, List.mem_append, List.mem_append, mem_kinds_flatMap, List.mem_flatMap, or_assoc, pawn_sideOff]

theorem mem_pieceInner {X f : Nat} {att : Nat → UInt64} :
    m ∈ pieceInner g all X att f ↔ ∃ t c, t < 64 ∧ getBit (att f) t = true ∧
      (c = false → all = true ∧ getBit g.allOcc t = false) ∧
      (c = true → getBit (if g.white then g.blackOcc else g.whiteOcc) t = true) ∧
      m = Move.mk' f t X PNONE c false false false := by
  unfold pieceInner
  rw [List.mem_append]
  constructor
  · rintro (hq | hc)
    · cases all with
      | false => exact absurd hq (by simp)
      | true =>
        obtain ⟨t, ht, rfl⟩ := List.mem_map.1 hq
        obtain ⟨htl, hbit⟩ := (mem_bitsOf _ _).1 ht
        rw [getBit_and _ _ _ htl, getBit_not _ _ htl] at hbit
        simp only [Bool.and_eq_true, Bool.not_eq_true'] at hbit
        exact ⟨t, false, htl, hbit.1, fun _ => ⟨rfl, hbit.2⟩, fun h => absurd h (by simp), rfl⟩
    · obtain ⟨t, ht, rfl⟩ := List.mem_map.1 hc
      obtain ⟨htl, hbit⟩ := (mem_bitsOf _ _).1 ht
      rw [getBit_and _ _ _ htl] at hbit
      simp only [Bool.and_eq_true] at hbit
      exact ⟨t, true, htl, hbit.1, fun h => absurd h (by simp), fun _ => hbit.2, rfl⟩
  · rintro ⟨t, c, htl, hatt, hq, hc, rfl⟩
    cases c
    · obtain ⟨rfl, hfree⟩ := hq rfl
      exact Or.inl (List.mem_map.2 ⟨t, (mem_bitsOf _ _).2 ⟨htl, by rw [getBit_and _ _ _ htl, getBit_not _ _ htl, hatt, hfree]; rfl⟩, rfl⟩)
    · exact Or.inr (List.mem_map.2 ⟨t, (mem_bitsOf _ _).2 ⟨htl, by rw [getBit_and _ _ _ htl, hatt, hc rfl]; rfl⟩, rfl⟩)

theorem mem_pieceMoves {X : Nat} {att : Nat → UInt64} :
    m ∈ pieceMoves g all X att ↔ ∃ f t c, f ∈ bitsOf (g.bb X) ∧ t < 64 ∧ getBit (att f) t = true ∧
      (c = false → all = true ∧ getBit g.allOcc t = false) ∧
      (c = true → getBit (if g.white then g.blackOcc else g.whiteOcc) t = true) ∧
      m = Move.mk' f t X PNONE c false false false := by
  rw [pieceMoves_eq, List.mem_flatMap]
  simp only [mem_pieceInner]
  exact ⟨fun ⟨f, hf, t, c, h⟩ => ⟨f, t, c, hf, h⟩, fun ⟨f, t, c, hf, h⟩ => ⟨f, hf, t, c, h⟩⟩

theorem step_to_le {f t : Nat} {c : Bool}
    (hq : c = false → all = true ∧ t = fwd g.white f ∧ getBit g.allOcc t = false)
    (hc : c = true → t < 64 ∧ getBit (getPawnAttacks f g.white) t = true ∧
      getBit (if g.white then g.blackOcc else g.whiteOcc) t = true) : t ≤ 255 := by
  cases c
  · rw [(hq rfl).2.1]; exact fwd_le _ _
  · have := (hc rfl).1; omega

theorem mem_pawnQuiet {f : Nat} : m ∈ pawnQuiet g f ↔
    getBit g.allOcc (fwd g.white f) = false ∧
      ((∃ pr ∈ promoOpts g.white (fwd g.white f),
          m = Move.mk' f (fwd g.white f) (if g.white then WP else BP) pr false false false false) ∨
       (NotLast g.white (fwd g.white f) ∧ getBit g.allOcc (fwd g.white (fwd g.white f)) = false ∧
          f / 8 = (if g.white then 6 else 1) ∧
          m = Move.mk' f (fwd g.white (fwd g.white f)) (if g.white then WP else BP) PNONE false true false false)) := by
  rw [pawnQuiet_eq]
  cases hocc : getBit g.allOcc (fwd g.white f)
  · simp only [Bool.not_false, if_true, true_and, List.mem_append, List.mem_map]
    refine or_congr ⟨fun ⟨pr, hpr, h⟩ => ⟨pr, hpr, h.symm⟩, fun ⟨pr, hpr, h⟩ => ⟨pr, hpr, h.symm⟩⟩ ?_
    by_cases hd : NotLast g.white (fwd g.white f) ∧
        (!getBit g.allOcc (fwd g.white (fwd g.white f)) && f / 8 == (if g.white then 6 else 1)) = true
    · rw [if_pos hd, List.mem_singleton]
      simp only [Bool.and_eq_true, Bool.not_eq_true', beq_iff_eq] at hd
      exact ⟨fun h => ⟨hd.1, hd.2.1, hd.2.2, h⟩, fun h => h.2.2.2⟩
    · rw [if_neg hd]
      simp only [Bool.and_eq_true, Bool.not_eq_true', beq_iff_eq] at hd
      exact ⟨fun h => absurd h (by simp), fun h => absurd ⟨h.1, h.2.1, h.2.2.1⟩ hd⟩
  · simp

theorem mem_pawnEp {f : Nat} : m ∈ pawnEp g f ↔
    g.ep ≠ SQNONE ∧ (!isEmpty (getPawnAttacks f g.white &&& bit g.ep)) = true ∧
      m = Move.mk' f g.ep (if g.white then WP else BP) PNONE true false true false := by
  unfold pawnEp
  simp only
  split
  · rename_i hc
    simp only [Bool.and_eq_true, bne_iff_ne] at hc
    rw [List.mem_singleton]; exact ⟨fun h => ⟨hc.1, hc.2, h⟩, fun h => h.2.2⟩
  · rename_i hc
    simp only [Bool.and_eq_true, bne_iff_ne] at hc
    exact ⟨fun h => absurd h (by simp), fun h => absurd ⟨h.1, h.2.1⟩ hc⟩

theorem mem_pawnCaps {f : Nat} : m ∈ pawnCaps g f ↔
    ∃ t pr, t < 64 ∧ getBit (getPawnAttacks f g.white) t = true ∧ getBit (if g.white then g.blackOcc else g.whiteOcc) t = true ∧
      pr ∈ promoOpts g.white t ∧ m = Move.mk' f t (if g.white then WP else BP) pr true false false false := by
  rw [pawnCaps_eq]
  simp only [List.mem_flatMap, mem_bitsOf, List.mem_map]
  constructor
  · rintro ⟨t, ⟨htl, hbit⟩, pr, hpr, rfl⟩
    rw [getBit_and _ _ _ htl] at hbit
    simp only [Bool.and_eq_true] at hbit
    exact ⟨t, pr, htl, hbit.1, hbit.2, hpr, rfl⟩
  · rintro ⟨t, pr, htl, hatt, hopp, hpr, rfl⟩
    exact ⟨t, ⟨htl, by rw [getBit_and _ _ _ htl, hatt, hopp]; rfl⟩, pr, hpr, rfl⟩

theorem mem_pawnMoves {f : Nat} : m ∈ pawnMoves g all f ↔ PawnMove g all f m := by
  unfold pawnMoves
  simp only [List.mem_append, mem_pawnEp, mem_pawnCaps]
  constructor
  · rintro ((hq | ⟨h1, h2, rfl⟩) | ⟨t, pr, htl, hatt, hopp, hpr, rfl⟩)
    · cases all with
      | false => exact absurd hq (by simp)
      | true =>
        rw [if_pos rfl] at hq
        obtain ⟨hfree, ⟨pr, hpr, rfl⟩ | ⟨hl, hfree2, hrow, rfl⟩⟩ := mem_pawnQuiet.1 hq
        · exact .step _ pr false (fun _ => ⟨rfl, rfl, hfree⟩) (fun h => absurd h (by simp)) hpr
        · exact .dpush rfl hfree hl hfree2 hrow
    · exact .ep h1 h2
    · exact .step t pr true (fun h => absurd h (by simp)) (fun _ => ⟨htl, hatt, hopp⟩) hpr
  · rintro (⟨t, pr, c, hq, hc, hpr⟩ | ⟨rfl, hfree, hl, hfree2, hrow⟩ | ⟨h1, h2⟩)
    · cases c
      · obtain ⟨rfl, rfl, hfree⟩ := hq rfl
        exact Or.inl (Or.inl (by rw [if_pos rfl]; exact mem_pawnQuiet.2 ⟨hfree, Or.inl ⟨pr, hpr, rfl⟩⟩))
      · obtain ⟨htl, hatt, hopp⟩ := hc rfl
        exact Or.inr ⟨t, pr, htl, hatt, hopp, hpr, rfl⟩
    · exact Or.inl (Or.inl (by rw [if_pos rfl]; exact mem_pawnQuiet.2 ⟨hfree, Or.inr ⟨hl, hfree2, hrow, rfl⟩⟩))
    · exact Or.inl (Or.inr ⟨h1, h2, rfl⟩)

theorem mem_castlingMoves : m ∈ castlingMoves g all ↔ all = true ∧ ∃ qs, castleOk g qs = true ∧ m = castleMove g.white qs := by
  rw [castlingMoves_eq]
  cases all
  · simp
  · cases h1 : castleOk g false <;> cases h2 : castleOk g true <;> simp [h1, h2]

theorem pawnMoves_notCastle {f : Nat} (hf : f ≤ 64) (hep : g.ep ≤ 64) :
    ∀ m ∈ pawnMoves g all f, m.isCastling = false := by
  intro m hm
  cases mem_pawnMoves.1 hm with
  | step t pr c hq hc hpr =>
    exact (gen_mk_flags _ _ _ _ _ _ _ _ hf (step_to_le hq hc) (pawn_piece_le _) (promoOpts_le hpr)).2.2.2
  | dpush => exact (gen_mk_flags _ _ _ _ _ _ _ _ hf (fwd_le _ _) (pawn_piece_le _) (by decide)).2.2.2
  | ep => exact (gen_mk_flags _ _ _ _ _ _ _ _ hf (by omega) (pawn_piece_le _) (by decide)).2.2.2

theorem pieceMoves_notCastle {X : Nat} {att : Nat → UInt64} (hX : X ≤ 12) :
    ∀ m ∈ pieceMoves g all X att, m.isCastling = false := by
  intro m hm
  obtain ⟨f, t, c, hf, ht, _, _, _, rfl⟩ := mem_pieceMoves.1 hm
  exact (gen_mk_flags _ _ _ _ _ _ _ _ (Nat.le_of_lt ((mem_bitsOf _ _).1 hf).1) (by omega) hX (by decide)).2.2.2

theorem castlingMoves_castle : ∀ m ∈ castlingMoves g all, m.isCastling = true := by
  intro m hm
  obtain ⟨_, qs, _, rfl⟩ := mem_castlingMoves.1 hm
  exact (castleMove_fields _ _).2.2.2

theorem generateMoves_subset (h : m ∈ generateMoves g all) : m ∈ generateMoves g true := by
  cases all with
  | true => exact h
  | false =>
    rcases mem_generateMoves.1 h with ⟨f, hf, h⟩ | h | ⟨X, hX, hnp, h⟩
    · refine mem_generateMoves.2 (Or.inl ⟨f, hf, mem_pawnMoves.2 ?_⟩)
      cases mem_pawnMoves.1 h with
      | step t pr c hq hc hpr => exact .step t pr c (fun h0 => absurd (hq h0).1 Bool.false_ne_true) hc hpr
      | dpush h0 => exact absurd h0 Bool.false_ne_true
      | ep h1 h2 => exact .ep h1 h2
    · exact absurd (mem_castlingMoves.1 h).1 Bool.false_ne_true
    · obtain ⟨f, t, c, hf, ht, hatt, hq, hc, rfl⟩ := mem_pieceMoves.1 h
      exact mem_generateMoves.2 (Or.inr (Or.inr ⟨X, hX, hnp, mem_pieceMoves.2
        ⟨f, t, c, hf, ht, hatt, fun h0 => absurd (hq h0).1 Bool.false_ne_true, hc, rfl⟩⟩))

end parts

end Jence

/-! The shape of a generated word stands under the property's namespace: C01 names `GenShape` and `generated_shape` among its
  results (T1.2), and lemma files below the property use them. -/
namespace Jence.Props.C01
open Jence

/-- what every generated move looks like: packed from in-range fields, and flagged en passant only if flagged capture -/
def GenShape (m : Move) : Prop :=
  ∃ f t p pr c d e k, m = Move.mk' f t p pr c d e k ∧ f < 64 ∧ t ≤ 255 ∧ p ≤ 12 ∧ pr ≤ 12 ∧ (e = true → c = true) ∧
    (d = true → t + 8 ≤ 64)

theorem GenShape.ep_imp_cap {m : Move} (h : GenShape m) : m.isEnpassant = true → m.isCapture = true := by
  obtain ⟨f, t, p, pr, c, d, e, k, rfl, hf, ht, hp, hpr, hec, _⟩ := h
  obtain ⟨e1, _, e3, _⟩ := gen_mk_flags f t p pr c d e k (by omega) ht hp hpr
  rw [e1, e3]
  exact hec

theorem shape_mk (f t p pr : Nat) (c d e k : Bool) (hf : f < 64) (ht : t ≤ 255) (hp : p ≤ 12) (hpr : pr ≤ 12)
    (hec : e = true → c = true) (hd : d = true → t + 8 ≤ 64 := by simp) : GenShape (Move.mk' f t p pr c d e k) :=
  ⟨f, t, p, pr, c, d, e, k, rfl, hf, ht, hp, hpr, hec, hd⟩

theorem generated_shape (g : Game) (all : Bool) (hep : g.ep ≤ 64) : ∀ m ∈ generateMoves g all, GenShape m := by
  intro m hm
  rcases mem_generateMoves.1 hm with ⟨f, hf, h⟩ | h | ⟨X, hX, _, h⟩
  · have hf64 := bitsOf_lt _ f hf
    cases mem_pawnMoves.1 h with
    | step t pr c hq hc hpr =>
      exact shape_mk _ _ _ _ _ _ _ _ hf64 (step_to_le hq hc) (pawn_piece_le _) (promoOpts_le hpr) (by simp)
    | dpush _ _ _ _ hr =>
      refine shape_mk _ _ _ _ _ _ _ _ hf64 (fwd_le _ _) (pawn_piece_le _) (by decide) (by simp) (fun _ => ?_)
      unfold fwd u8sub8 u8add8
      cases hw : g.white <;> rw [hw] at hr <;> simp only [Bool.false_eq_true, if_false, if_true] at hr ⊢ <;> omega
    | ep _ _ => exact shape_mk _ _ _ _ _ _ _ _ hf64 (by omega) (pawn_piece_le _) (by decide) (by simp)
  · obtain ⟨_, qs, _, rfl⟩ := mem_castlingMoves.1 h
    cases g.white <;> cases qs <;> exact shape_mk _ _ _ _ _ _ _ _ (by decide) (by decide) (by decide) (by decide) (by simp)
  · obtain ⟨f, t, c, hf, ht, _, _, _, rfl⟩ := mem_pieceMoves.1 h
    exact shape_mk _ _ _ _ _ _ _ _ (bitsOf_lt _ f hf) (by omega) (by have := ownP_lt hX; omega) (by decide) (by simp)

end Jence.Props.C01
