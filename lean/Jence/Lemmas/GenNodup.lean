/-
  The generated move list has no repeats, part by part through a field that tells the parts apart (`generateMoves_nodup`),
  and distinct generated moves denote distinct rules moves (`smove_inj`: the rules read every flag off source, target and
  board, and a generated word has 24 bits, `generated_lt`). So counting the accepted elements counts legal moves.
-/
import Jence.Lemmas.ApplyRefine
import Jence.Lemmas.GenFlags
namespace Jence
open Jence

section parts
variable {g : Game}

theorem pieceInner_nodup (X f : Nat) (att : Nat → UInt64) (hX : X < 16) (hf : f < 64) :
    (pieceInner g true X att f).Nodup ∧ ∀ m ∈ pieceInner g true X att f, m.fromSq = f ∧ m.piece = X := by
  have fld := fun (c : Bool) (x : UInt64) t (ht : t ∈ bitsOf x) =>
    mk_fields f t X PNONE c false false false hf ((mem_bitsOf _ _).1 ht).1 hX (by decide)
  unfold pieceInner
  refine ⟨?_, ?_⟩
  · refine nodup_append_of_key Move.isCapture (nodup_map_key _ _ Move.toSq (bitsOf_nodup _) (fun t ht => (fld false _ t ht).toSq))
      (nodup_map_key _ _ Move.toSq (bitsOf_nodup _) (fun t ht => (fld true _ t ht).toSq)) fun x hx y hy => ?_
    obtain ⟨t, ht, rfl⟩ := List.mem_map.1 hx
    obtain ⟨t', ht', rfl⟩ := List.mem_map.1 hy
    rw [(fld false _ t ht).isCapture, (fld true _ t' ht').isCapture]; decide
  · intro m hm
    rcases List.mem_append.1 hm with hm | hm <;> obtain ⟨t, ht, rfl⟩ := List.mem_map.1 hm
    · exact ⟨(fld false _ t ht).fromSq, (fld false _ t ht).piece⟩
    · exact ⟨(fld true _ t ht).fromSq, (fld true _ t ht).piece⟩

theorem pieceMoves_nodup (X : Nat) (att : Nat → UInt64) (hX : X < 16) :
    (pieceMoves g true X att).Nodup ∧ ∀ m ∈ pieceMoves g true X att, m.piece = X := by
  have inner := fun f (hf : f ∈ bitsOf (g.bb X)) => pieceInner_nodup (g := g) X f att hX ((mem_bitsOf _ _).1 hf).1
  rw [pieceMoves_eq]
  refine ⟨nodup_flatMap_key _ _ Move.fromSq (bitsOf_nodup _) (fun f hf => (inner f hf).1)
    (fun f hf m hm => ((inner f hf).2 m hm).1), fun m hm => ?_⟩
  obtain ⟨f, hf, hm⟩ := List.mem_flatMap.1 hm
  exact ((inner f hf).2 m hm).2

theorem promoOpts_nodup (w : Bool) (t : Nat) : (promoOpts w t).Nodup := by
  unfold promoOpts
  split
  · simp
  · cases w <;> decide

theorem fan_nodup (f t P : Nat) (c : Bool) (w : Bool) (hf : f < 64) (ht : t < 64) (hP : P < 16) :
    ((promoOpts w t).map fun p => Move.mk' f t P p c false false false).Nodup ∧
    ∀ m ∈ (promoOpts w t).map fun p => Move.mk' f t P p c false false false,
      m.fromSq = f ∧ m.toSq = t ∧ m.piece = P ∧ m.isCapture = c ∧ m.isEnpassant = false ∧ m.isDoublePush = false := by
  have fld := fun pr (hpr : pr ∈ promoOpts w t) =>
    mk_fields f t P pr c false false false hf ht hP (by have := promoOpts_le hpr; omega)
  refine ⟨nodup_map_key _ _ Move.promotion (promoOpts_nodup w t) (fun pr hpr => (fld pr hpr).promotion), fun m hm => ?_⟩
  obtain ⟨pr, hpr, rfl⟩ := List.mem_map.1 hm
  have h := fld pr hpr
  exact ⟨h.fromSq, h.toSq, h.piece, h.isCapture, h.isEnpassant, h.isDoublePush⟩

theorem pawnCaps_nodup (f : Nat) (hf : f < 64) :
    (pawnCaps g f).Nodup ∧ ∀ m ∈ pawnCaps g f, m.fromSq = f ∧ m.piece = (if g.white then WP else BP) ∧ m.isCapture = true ∧ m.isEnpassant = false := by
  have fan := fun t (ht : t ∈ bitsOf (getPawnAttacks f g.white &&& (if g.white then g.blackOcc else g.whiteOcc))) =>
    fan_nodup f t _ true g.white hf ((mem_bitsOf _ _).1 ht).1 (pawn_piece_lt g.white)
  rw [pawnCaps_eq]
  refine ⟨nodup_flatMap_key _ _ Move.toSq (bitsOf_nodup _) (fun t ht => (fan t ht).1) (fun t ht m hm => ((fan t ht).2 m hm).2.1),
    fun m hm => ?_⟩
  obtain ⟨t, ht, hm⟩ := List.mem_flatMap.1 hm
  have := (fan t ht).2 m hm
  exact ⟨this.1, this.2.2.1, this.2.2.2.1, this.2.2.2.2.1⟩

theorem pawnEp_nodup (f : Nat) (hf : f < 64) (hep : g.ep ≤ 64) :
    (pawnEp g f).Nodup ∧ ∀ m ∈ pawnEp g f, m.fromSq = f ∧ m.piece = (if g.white then WP else BP) ∧ m.isCapture = true ∧ m.isEnpassant = true := by
  refine ⟨?_, fun m hm => ?_⟩
  · unfold pawnEp
    simp only
    split <;> simp
  · obtain ⟨hne, _, rfl⟩ := mem_pawnEp.1 hm
    have hne : g.ep ≠ 64 := hne
    have h := mk_fields f g.ep (if g.white then WP else BP) PNONE true false true false hf (by omega)
      (pawn_piece_lt _) (by decide)
    exact ⟨h.fromSq, h.piece, h.isCapture, h.isEnpassant⟩

theorem pawnQuiet_nodup (f : Nat) (hrow : 8 ≤ f ∧ f < 56) :
    (pawnQuiet g f).Nodup ∧ ∀ m ∈ pawnQuiet g f, m.fromSq = f ∧ m.piece = (if g.white then WP else BP) ∧ m.isCapture = false := by
  have hf : f < 64 := by omega
  have hP : (if g.white then WP else BP) < 16 := pawn_piece_lt _
  obtain ⟨e1, ht1⟩ := pawn_step g.white f hrow
  obtain ⟨n1, n2⟩ := fan_nodup f (pstep g.white f) (if g.white then WP else BP) false g.white hf ht1 hP
  rw [pawnQuiet_eq, e1]
  split
  · by_cases hd : NotLast g.white (pstep g.white f) ∧
        (!getBit g.allOcc (fwd g.white (pstep g.white f)) && f / 8 == (if g.white then 6 else 1)) = true
    · rw [if_pos hd]
      obtain ⟨e2, ht2⟩ := pawn_step2 g.white f hrow hd.1
      have hd2 := mk_fields f (pstep g.white (pstep g.white f)) _ PNONE false true false false hf ht2 hP (by decide)
      rw [e2]
      refine ⟨nodup_append_of_key Move.isDoublePush n1 (by simp) fun x hx y hy => ?_, fun m hm => ?_⟩
      · rw [(n2 x hx).2.2.2.2.2, List.mem_singleton.1 hy, hd2.isDoublePush]; decide
      · rcases List.mem_append.1 hm with h | h
        · have := n2 m h; exact ⟨this.1, this.2.2.1, this.2.2.2.1⟩
        · rw [List.mem_singleton] at h; subst h; exact ⟨hd2.fromSq, hd2.piece, hd2.isCapture⟩
    · rw [if_neg hd, List.append_nil]
      exact ⟨n1, fun m hm => by have := n2 m hm; exact ⟨this.1, this.2.2.1, this.2.2.2.1⟩⟩
  · exact ⟨by simp, fun m hm => absurd hm (by simp)⟩

theorem pawnMoves_nodup (f : Nat) (hrow : 8 ≤ f ∧ f < 56) (hep : g.ep ≤ 64) :
    (pawnMoves g true f).Nodup ∧ ∀ m ∈ pawnMoves g true f, m.fromSq = f ∧ m.piece = (if g.white then WP else BP) := by
  have hf : f < 64 := by omega
  obtain ⟨q1, q2⟩ := pawnQuiet_nodup (g := g) f hrow
  obtain ⟨e1, e2⟩ := pawnEp_nodup (g := g) f hf hep
  obtain ⟨c1, c2⟩ := pawnCaps_nodup (g := g) f hf
  unfold pawnMoves
  simp only [if_true]
  refine ⟨?_, ?_⟩
  · -- pushes are no captures; of the captures, en passant carries its flag
    rw [List.append_assoc]
    refine nodup_append_of_key Move.isCapture q1
      (nodup_append_of_key Move.isEnpassant e1 c1 fun x hx y hy => by rw [(e2 x hx).2.2.2, (c2 y hy).2.2.2]; decide)
      fun x hx y hy => ?_
    rw [(q2 x hx).2.2]
    rcases List.mem_append.1 hy with hy | hy
    · rw [(e2 y hy).2.2.1]; decide
    · rw [(c2 y hy).2.2.1]; decide
  · intro m hm
    rcases List.mem_append.1 hm with hm | hm
    · rcases List.mem_append.1 hm with hm | hm
      · exact ⟨(q2 m hm).1, (q2 m hm).2.1⟩
      · exact ⟨(e2 m hm).1, (e2 m hm).2.1⟩
    · exact ⟨(c2 m hm).1, (c2 m hm).2.1⟩

end parts

theorem castlingMoves_nodup (g : Game) : (castlingMoves g true).Nodup := by
  have hne : castleMove g.white false ≠ castleMove g.white true := by
    intro h
    have := congrArg Move.toSq h
    revert this; cases g.white <;> decide
  rw [castlingMoves_eq, if_pos rfl]
  cases castleOk g false <;> cases castleOk g true <;> simp [hne]

theorem generateMoves_nodup {g : Game} {b : Board} (wf : Wf g b) : (generateMoves g true).Nodup := by
  -- pawns: told apart by their source square
  have hP : ((bitsOf (g.bb (WP + sideOff g.white))).flatMap (pawnMoves g true)).Nodup ∧
      ∀ m ∈ (bitsOf (g.bb (WP + sideOff g.white))).flatMap (pawnMoves g true),
        m.piece = WP + sideOff g.white ∧ m.isCastling = false := by
    rw [pawn_sideOff]
    have hrows : ∀ f ∈ bitsOf (g.bb (if g.white then WP else BP)), 8 ≤ f ∧ f < 56 := by
      intro f hf
      obtain ⟨hfl, hsrc⟩ := (mem_bitsOf_board wf _ f (ownP_lt (pawn_own _))).1 hf
      exact wf.pawn_row hfl hsrc
    refine ⟨?_, ?_⟩
    · apply nodup_flatMap_key _ _ Move.fromSq (bitsOf_nodup _)
      · intro f hf; exact (pawnMoves_nodup f (hrows f hf) wf.ok.epLe).1
      · intro f hf m hm; exact ((pawnMoves_nodup f (hrows f hf) wf.ok.epLe).2 m hm).1
    · intro m hm
      rw [List.mem_flatMap] at hm
      obtain ⟨f, hf, hm⟩ := hm
      exact ⟨((pawnMoves_nodup f (hrows f hf) wf.ok.epLe).2 m hm).2, pawnMoves_notCastle (by have := hrows f hf; omega) wf.ok.epLe m hm⟩
  have hC2 := castlingMoves_castle (g := g) (all := true)
  -- the five other kinds are one family, told apart by the piece index
  have hK1 : ∀ k ∈ [WN, WB, WR, WQ, WK], (pieceMoves g true (k + sideOff g.white) (attacksOf g.allOcc (k + sideOff g.white))).Nodup ∧
      ∀ m ∈ pieceMoves g true (k + sideOff g.white) (attacksOf g.allOcc (k + sideOff g.white)),
        m.piece = k + sideOff g.white ∧ m.isCastling = false :=
    fun k hk =>
      have hX : k + sideOff g.white ≤ 12 := Nat.le_of_lt (ownP_lt (kind_own hk _))
      have n := pieceMoves_nodup (g := g) _ (attacksOf g.allOcc (k + sideOff g.white)) (Nat.lt_of_le_of_lt hX (by decide))
      ⟨n.1, fun m hm => ⟨n.2 m hm, pieceMoves_notCastle hX m hm⟩⟩
  rw [generateMoves_eq, List.nodup_append, List.nodup_append]
  refine ⟨⟨hP.1, castlingMoves_nodup g, ?_⟩, ?_, ?_⟩
  · intro a ha c hc hac
    have := (hP.2 a ha).2; rw [hac, hC2 c hc] at this; exact absurd this (by simp)
  · exact nodup_flatMap_key _ _ (fun m => m.piece - sideOff g.white) (by decide) (fun k hk => (hK1 k hk).1)
      (fun k hk m hm => by rw [((hK1 k hk).2 m hm).1]; omega)
  · intro a ha c hc hac
    obtain ⟨k, hk, hc⟩ := List.mem_flatMap.1 hc
    obtain ⟨h1, h2⟩ := (hK1 k hk).2 c hc
    rcases List.mem_append.1 ha with h | h
    · have := (hP.2 a h).1; rw [hac, h1] at this
      have := Nat.add_right_cancel this; have := kind_pos_lt hk; have hWP : WP = 0 := rfl; omega
    · rw [← hac, hC2 a h] at h2; exact absurd h2 (by simp)

theorem generated_lt (g : Game) (hep : g.ep ≤ 64) (m : Move) (hm : m ∈ generateMoves g true) : m.data < 16777216 := by
  obtain ⟨f, t, p, pr, c, d, e, k, rfl, hf, ht, hp, hpr, _, _⟩ := Props.C01.generated_shape g true hep m hm
  exact mk_data_lt f t p pr c d e k (by omega)

theorem smove_inj {g : Game} {b : Board} (wf : Wf g b) (nk : NoKingCapture g) (m1 m2 : Move)
    (h1 : m1 ∈ generateMoves g true) (h2 : m2 ∈ generateMoves g true) (h : smove m1 = smove m2) : m1 = m2 := by
  have f1 := gen_fits wf nk true m1 h1
  have f2 := gen_fits wf nk true m2 h2
  have g1 := gen_flags wf true m1 h1
  have g2 := gen_flags wf true m2 h2
  have h' := h
  injection h' with hfrom hto hpr
  have hpiece : m1.piece = m2.piece := by
    have a := f1.src; have c := f2.src
    rw [hfrom] at a; rw [a] at c; injection c
  have hpromo : m1.promotion = m2.promotion := by
    by_cases p1 : m1.promotion = PNONE
    · rw [if_pos p1] at hpr
      by_cases p2 : m2.promotion = PNONE
      · rw [p1, p2]
      · rw [if_neg p2] at hpr; exact absurd hpr (by simp)
    · rw [if_neg p1] at hpr
      by_cases p2 : m2.promotion = PNONE
      · rw [if_pos p2] at hpr; exact absurd hpr (by simp)
      · rw [if_neg p2] at hpr
        injection hpr with hk
        -- both are pieces of the mover's colour, of one kind
        have o1 := (f1.promo p1).1
        have o2 := (f2.promo p2).1
        have w1 : decide (m1.promotion < 6) = g.white := ownP_white o1
        have w2 : decide (m2.promotion < 6) = g.white := ownP_white o2
        exact pieceOf_inj _ (ownP_lt o1) _ (ownP_lt o2) (by unfold pieceOf; rw [w1, w2, hk])
  -- the rules tell from source, target and board whether a move is en passant, castling, a capture; so do the flags
  have hep : m1.isEnpassant = m2.isEnpassant := by
    rw [← spec_isEnPassant wf f1 g1, ← spec_isEnPassant wf f2 g2, h]
  have hcs : m1.isCastling = m2.isCastling := by
    rw [← spec_isCastle wf f1 g1, ← spec_isCastle wf f2 g2, h]
  have hcap : m1.isCapture = m2.isCapture := by
    rw [← spec_isCapture wf f1 g1, ← spec_isCapture wf f2 g2, h]
  have hdp : m1.isDoublePush = m2.isDoublePush :=
    Bool.eq_iff_iff.2 (by rw [g1.dpushIff, g2.dpushIff, hfrom, hto, hpiece])
  exact move_eq_of_fields m1 m2 (generated_lt g wf.ok.epLe m1 h1) (generated_lt g wf.ok.epLe m2 h2)
    hfrom hto hpiece hpromo hcap hdp hep hcs

end Jence
