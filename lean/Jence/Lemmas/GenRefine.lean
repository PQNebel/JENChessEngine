/-
  The move generator refines the rules' pseudo-legal moves, piece by piece: for a piece of the side to move on square
  `f`, the rules' `pieceMoves` are exactly the `smove`s of what the generator emits for that piece.
-/
import Jence.Lemmas.Refine
import Jence.Lemmas.AttackLookup
import Jence.Lemmas.ListExtra
namespace Jence
open Jence

theorem spec_own {g : Game} {b : Board} (wf : Wf g b) (X t : Nat) (hX : ownP g.white X) (ht : t < 64) :
    (match Spec.at_ (Spec.abs g) t with | some q => q.white == (pieceOf X).white | none => false) = true ↔
      ∃ Y, b t = some Y ∧ ownP g.white Y := by
  rw [abs_at wf t ht]
  cases hb : b t with
  | none => simp
  | some Y =>
    have hY := wf.ok.valid t Y ht hb
    simp only [Option.map_some, Option.some.injEq, exists_eq_left']
    rw [beq_iff_eq.1 ((pieceOf_white X g.white (ownP_lt hX)).2 hX)]
    exact pieceOf_white Y g.white hY

theorem own_or_enemy (w : Bool) (Y : Nat) (hY : Y < 12) : ownP w Y ∨ enemyP w Y := by
  rw [ownP_iff_lt, enemyP_iff_lt]; cases w <;> simp <;> omega

theorem spec_pieceMoves_nonpawn (p : Spec.Position) (s : Nat) (pc : Spec.Piece) (h : pc.kind ≠ .pawn) :
    Spec.pieceMoves p s pc =
      ((Spec.attackedFrom (Spec.occupiedIn p) pc s).filter fun t =>
        !(match Spec.at_ p t with | some q => q.white == pc.white | none => false)).map fun t => ⟨s, t, none⟩ := by
  unfold Spec.pieceMoves
  cases hk : pc.kind <;> first | exact absurd hk h | rfl

theorem smove_mk (f t p pr : Nat) (c d e k : Bool) (hf : f < 64) (ht : t < 64) (hp : p < 16) (hpr : pr < 16) :
    smove (Move.mk' f t p pr c d e k) = ⟨f, t, if pr = PNONE then none else some (Spec.kindOfIndex pr)⟩ := by
  have h := mk_fields f t p pr c d e k hf ht hp hpr
  unfold smove; rw [h.fromSq, h.toSq, h.promotion]

theorem smove_plain (f t X : Nat) (c : Bool) (hf : f < 64) (ht : t < 64) (hX : X < 16) :
    smove (Move.mk' f t X PNONE c false false false) = ⟨f, t, none⟩ :=
  smove_mk f t X PNONE c false false false hf ht hX (by decide)

theorem piece_refines {g : Game} {b : Board} (wf : Wf g b) (X f : Nat) (hX : ownP g.white X) (hnp : (pieceOf X).kind ≠ .pawn)
    (hf : f < 64) (sm : Spec.SMove) :
    sm ∈ Spec.pieceMoves (Spec.abs g) f (pieceOf X) ↔
      ∃ m ∈ pieceInner g true X (attacksOf g.allOcc X) f, smove m = sm := by
  have hX12 := ownP_lt hX
  rw [spec_pieceMoves_nonpawn _ _ _ hnp, attackedFrom_congr _ _ (abs_occupied wf)]
  simp only [List.mem_map, List.mem_filter, Bool.not_eq_true', mem_pieceInner]
  constructor
  · rintro ⟨t, ⟨hmem, hown⟩, rfl⟩
    have ht := attackedFrom_lt _ _ _ t hmem
    have hbit := (attacksOf_spec g.allOcc X f t hX12 hf ht).2 hmem
    have hnot : ¬ ∃ Y, b t = some Y ∧ ownP g.white Y := by
      intro h; rw [← spec_own wf X t hX ht] at h; rw [h] at hown; exact absurd hown (by simp)
    cases hb : b t with
    | none =>
      exact ⟨_, ⟨t, false, ht, hbit, fun _ => ⟨trivial, (wf.all_iff t ht).2 hb⟩, fun h => absurd h (by simp), rfl⟩,
        smove_plain f t X false hf ht (by omega)⟩
    | some Y =>
      have hen : enemyP g.white Y := by
        rcases own_or_enemy g.white Y (wf.ok.valid t Y ht hb) with h | h
        · exact absurd ⟨Y, hb, h⟩ hnot
        · exact h
      exact ⟨_, ⟨t, true, ht, hbit, fun h => absurd h (by simp), fun _ => (wf.opp_iff t ht).2 ⟨Y, hb, hen⟩, rfl⟩,
        smove_plain f t X true hf ht (by omega)⟩
  · rintro ⟨m, ⟨t, c, htl, hatt, hq, hc, rfl⟩, rfl⟩
    refine ⟨t, ⟨(attacksOf_spec g.allOcc X f t hX12 hf htl).1 hatt, ?_⟩, (smove_plain f t X c hf htl (by omega)).symm⟩
    cases c
    · rw [abs_at wf t htl, (wf.all_iff t htl).1 (hq rfl).2]; rfl
    · obtain ⟨Y, hb, hen⟩ := (wf.opp_iff t htl).1 (hc rfl)
      cases h : (match Spec.at_ (Spec.abs g) t with | some q => q.white == (pieceOf X).white | none => false)
      · rfl
      · obtain ⟨Y', hb', hown'⟩ := (spec_own wf X t hX htl).1 h
        rw [hb] at hb'; injection hb' with hb'; subst hb'
        exact absurd hown' (fun ho => own_not_enemy ho hen)

/-- the rules' promotion fan / single move for a pawn move to `t` -/
def specPromoFan (f t : Nat) (last : Bool) : List Spec.SMove :=
  if last then Spec.promoKinds.map fun k => ⟨f, t, some k⟩ else [⟨f, t, none⟩]

theorem rowOf_beq (t k : Nat) : (Spec.rowOf t == (k : Int)) = decide (t / 8 = k) := by
  unfold Spec.rowOf
  rw [Bool.eq_iff_iff, beq_iff_eq, decide_eq_true_eq]
  omega

theorem rowOf_last (w : Bool) (t : Nat) (ht : t < 64) :
    (Spec.rowOf t == (if w = true then (0 : Int) else 7)) = !decide (NotLast w t) := by
  rw [Bool.eq_iff_iff, beq_iff_eq, Bool.not_eq_true', decide_eq_false_iff_not]
  unfold NotLast Spec.rowOf
  cases w <;> simp only [Bool.false_eq_true, if_false, if_true] <;> omega

/-- the rules' pushes of a pawn on rows 2-7, in square numbers: one step (promoting on the last row), two from the
    start row -/
def specPush (p : Spec.Position) (w : Bool) (f : Nat) : List Spec.SMove :=
  (if (!Spec.occupiedIn p (pstep w f)) = true then specPromoFan f (pstep w f) (!decide (NotLast w (pstep w f))) else []) ++
  (if (decide (f / 8 = (if w then 6 else 1)) && !Spec.occupiedIn p (pstep w f) && !Spec.occupiedIn p (pstep w (pstep w f))) = true
   then [⟨f, pstep w (pstep w f), none⟩] else [])

/-- the rules' diagonal pawn moves to `t`: a capture (promoting on the last row), or en passant -/
def specDiag (p : Spec.Position) (w : Bool) (f t : Nat) : List Spec.SMove :=
  if (match Spec.at_ p t with | some q => q.white != w | none => false) = true then specPromoFan f t (!decide (NotLast w t))
  else if (p.ep == some t && !Spec.occupiedIn p t) = true then [⟨f, t, none⟩] else []

theorem spec_pawn (p : Spec.Position) (w : Bool) (f : Nat) (hf : 8 ≤ f ∧ f < 56) :
    Spec.pieceMoves p f ⟨w, .pawn⟩ = specPush p w f ++ (Spec.pawnAttacks w f).flatMap (specDiag p w f) := by
  unfold Spec.pieceMoves
  simp only
  have h1 : Spec.sqOf (Spec.fileOf f) (Spec.rowOf f + if w = true then -1 else 1) = pstep w f := by
    unfold Spec.sqOf Spec.fileOf Spec.rowOf pstep
    cases w <;> simp only [Bool.false_eq_true, if_false, if_true] <;> omega
  have h2 : Spec.sqOf (Spec.fileOf f) (Spec.rowOf f + 2 * if w = true then -1 else 1) = pstep w (pstep w f) := by
    unfold Spec.sqOf Spec.fileOf Spec.rowOf pstep
    cases w <;> simp only [Bool.false_eq_true, if_false, if_true] <;> omega
  have hon : Spec.onBoard (Spec.fileOf f) (Spec.rowOf f + if w = true then -1 else 1) = true := by
    simp only [Spec.onBoard, Spec.fileOf, Spec.rowOf, Bool.and_eq_true]
    cases w <;> simp only [Bool.false_eq_true, if_false, if_true] <;>
      refine ⟨⟨⟨?_, ?_⟩, ?_⟩, ?_⟩ <;> apply decide_eq_true <;> omega
  have hr6 : (Spec.rowOf f == if w = true then 6 else 1) = decide (f / 8 = if w then 6 else 1) := by
    cases w
    · exact rowOf_beq f 1
    · exact rowOf_beq f 6
  rw [h1, h2, hon, hr6, rowOf_last w _ (pawn_step w f hf).2]
  congr 1
  apply List.flatMap_congr'
  intro t ht
  rw [rowOf_last w t (by unfold Spec.pawnAttacks at ht; exact jumps_lt _ _ t ht)]
  rfl
theorem fan_images (w : Bool) (f t : Nat) (c : Bool) (hf : f < 64) (ht : t < 64) :
    (promoOpts w t).map (fun pr => smove (Move.mk' f t (if w then WP else BP) pr c false false false)) =
      specPromoFan f t (!decide (NotLast w t)) := by
  unfold promoOpts specPromoFan
  by_cases hL : NotLast w t
  · simp only [hL, if_true, List.map_singleton]
    rw [smove_mk _ _ _ _ _ _ _ _ hf ht (pawn_piece_lt _) (by decide)]
    rfl
  · simp only [hL, if_false]
    unfold promos Spec.promoKinds
    cases w <;> simp only [Bool.false_eq_true, if_false, if_true, List.map_cons, List.map_nil] <;>
      rw [smove_mk _ _ _ _ _ _ _ _ hf ht (by decide) (by decide), smove_mk _ _ _ _ _ _ _ _ hf ht (by decide) (by decide),
        smove_mk _ _ _ _ _ _ _ _ hf ht (by decide) (by decide), smove_mk _ _ _ _ _ _ _ _ hf ht (by decide) (by decide)] <;> rfl

theorem pawnAttacks_mem (w : Bool) (f t : Nat) (hf : f < 64) (ht : t < 64) :
    t ∈ Spec.pawnAttacks w f ↔ getBit (getPawnAttacks f w) t = true :=
  ((pawn_isLeaper w).mem f t hf ht).symm

theorem spec_enemy {g : Game} {b : Board} (wf : Wf g b) (t : Nat) (ht : t < 64) :
    (match Spec.at_ (Spec.abs g) t with | some q => q.white != g.white | none => false) =
      getBit (if g.white then g.blackOcc else g.whiteOcc) t := by
  rw [Bool.eq_iff_iff, wf.opp_iff t ht, abs_at wf t ht]
  cases hb : b t with
  | none => simp
  | some Y =>
    have hY := wf.ok.valid t Y ht hb
    simp only [Option.map_some, Option.some.injEq, exists_eq_left']
    rw [enemyP_iff_lt]; unfold pieceOf
    cases g.white <;> simp <;> omega

theorem caps_refines {g : Game} {b : Board} (wf : Wf g b) (f : Nat) (hf : f < 64) (sm : Spec.SMove) :
    sm ∈ (Spec.pawnAttacks g.white f).flatMap (specDiag (Spec.abs g) g.white f) ↔
      ∃ m ∈ pawnEp g f ++ pawnCaps g f, smove m = sm := by
  have hp16 : (if g.white then WP else BP) < 16 := pawn_piece_lt _
  simp only [List.mem_flatMap, List.mem_append, mem_pawnEp, mem_pawnCaps, specDiag]
  constructor
  · rintro ⟨t, ht, hsm⟩
    have ht64 : t < 64 := by unfold Spec.pawnAttacks at ht; exact jumps_lt _ _ t ht
    have hbit := (pawnAttacks_mem g.white f t hf ht64).1 ht
    rw [spec_enemy wf t ht64] at hsm
    by_cases hopp : getBit (if g.white then g.blackOcc else g.whiteOcc) t = true
    · rw [if_pos hopp] at hsm
      rw [← fan_images g.white f t true hf ht64, List.mem_map] at hsm
      obtain ⟨pr, hpr, rfl⟩ := hsm
      exact ⟨_, Or.inr ⟨t, pr, ht64, hbit, hopp, hpr, rfl⟩, rfl⟩
    · rw [if_neg hopp] at hsm
      split at hsm
      · rename_i hcond
        simp only [Bool.and_eq_true] at hcond
        have hep := (abs_ep g t ht64).1 (beq_iff_eq.1 hcond.1)
        rw [List.mem_singleton] at hsm
        refine ⟨_, Or.inl ⟨by rw [hep]; exact Nat.ne_of_lt ht64, ?_, rfl⟩, ?_⟩
        · rw [hep]; exact (not_isEmpty_and_bit _ _ ht64).2 hbit
        · rw [hep, smove_mk _ _ _ _ _ _ _ _ hf ht64 hp16 (by decide), hsm]; rfl
      · exact absurd hsm (by simp)
  · rintro ⟨m, ⟨hne, hatt, rfl⟩ | ⟨t, pr, ht64, hatt, hopp, hpr, rfl⟩, rfl⟩
    · have hne : g.ep ≠ 64 := hne
      have hepl : g.ep < 64 := by have := wf.ok.epLe; omega
      obtain ⟨hto, _, _⟩ := wf.ok.epOk hne
      refine ⟨g.ep, (pawnAttacks_mem g.white f g.ep hf hepl).2 ((not_isEmpty_and_bit _ _ hepl).1 hatt), ?_⟩
      rw [spec_enemy wf _ hepl]
      have hnopp : ¬ (getBit (if g.white then g.blackOcc else g.whiteOcc) g.ep = true) := by
        intro h; obtain ⟨v, hv, _⟩ := (wf.opp_iff _ hepl).1 h; rw [hto] at hv; exact absurd hv (by simp)
      have hcond : ((Spec.abs g).ep == some g.ep && !Spec.occupiedIn (Spec.abs g) g.ep) = true := by
        simp only [Bool.and_eq_true]
        refine ⟨beq_iff_eq.2 ((abs_ep g g.ep hepl).2 rfl), ?_⟩
        rw [abs_occupied wf _ hepl, (wf.all_iff _ hepl).2 hto]; rfl
      rw [if_neg hnopp, if_pos hcond, smove_mk _ _ _ _ _ _ _ _ hf hepl hp16 (by decide)]
      exact List.mem_singleton.2 rfl
    · refine ⟨t, (pawnAttacks_mem g.white f t hf ht64).2 hatt, ?_⟩
      rw [spec_enemy wf t ht64, if_pos hopp, ← fan_images g.white f t true hf ht64]
      exact List.mem_map.2 ⟨pr, hpr, rfl⟩

theorem quiet_eq {g : Game} {b : Board} (wf : Wf g b) (f : Nat) (hrow : 8 ≤ f ∧ f < 56) :
    (pawnQuiet g f).map smove = specPush (Spec.abs g) g.white f := by
  have hf : f < 64 := by omega
  obtain ⟨e1, ht1⟩ := pawn_step g.white f hrow
  -- a pawn on its start row is not one step from the last row
  have hstart : f / 8 = (if g.white then 6 else 1) → NotLast g.white (pstep g.white f) := by
    unfold NotLast pstep; cases g.white <;> simp <;> omega
  rw [pawnQuiet_eq, e1]
  unfold specPush
  rw [abs_occupied wf _ ht1]
  cases hocc : getBit g.allOcc (pstep g.white f)
  · simp only [Bool.not_false, if_true, Bool.and_true, List.map_append, List.map_map]
    congr 1
    · exact fan_images g.white f _ false hf ht1
    · by_cases hr : f / 8 = (if g.white then 6 else 1)
      · obtain ⟨e2, ht2⟩ := pawn_step2 g.white f hrow (hstart hr)
        rw [e2, abs_occupied wf _ ht2]
        cases getBit g.allOcc (pstep g.white (pstep g.white f)) <;>
          simp [hr, hstart hr, smove_mk _ _ _ _ _ _ _ _ hf ht2 (pawn_piece_lt _) (by decide : PNONE < 16)]
      · simp [hr]
  · simp

theorem pawn_refines {g : Game} {b : Board} (wf : Wf g b) (f : Nat) (hrow : 8 ≤ f ∧ f < 56) (sm : Spec.SMove) :
    sm ∈ Spec.pieceMoves (Spec.abs g) f ⟨g.white, .pawn⟩ ↔ ∃ m ∈ pawnMoves g true f, smove m = sm := by
  unfold pawnMoves
  simp only [if_true]
  rw [List.append_assoc, exists_mem_append, spec_pawn _ _ f hrow, List.mem_append, ← quiet_eq wf f hrow, List.mem_map]
  exact or_congr Iff.rfl (caps_refines wf f (by omega) sm)

end Jence
