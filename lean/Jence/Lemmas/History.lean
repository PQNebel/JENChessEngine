/-
  Histories: the moves of a sequence made one after the other (`playAll`), the board after them (`boardAfter`).
  `history_wf_root` is `made_step` (Lemmas/LegalRefine) along a sequence: consistency, "no capture aims at a king" and the key
  property hold after every sequence of accepted generated moves (`GenPath`) from a root that has them; `history_wf` is the
  special case in which "no capture aims at a king" is assumed of every position on the way (`GoodPath`).
-/
import Jence.Lemmas.LegalRefine
import Jence.Lemmas.WfDec
namespace Jence
open Jence

def playAll : Game → List Move → Option Game
  | g, [] => some g
  | g, m :: ms => match makeCore g m with
    | some g' => playAll g' ms
    | none => none

/-- `applyB` move by move, the sides alternating -/
def boardAfter : Board → Bool → List Move → Board
  | b, _, [] => b
  | b, w, m :: ms => boardAfter (applyB b w m) (!w) ms

theorem playAll_cons_some {g g' : Game} {m : Move} {ms : List Move} :
    playAll g (m :: ms) = some g' ↔ ∃ g1, makeCore g m = some g1 ∧ playAll g1 ms = some g' := by
  simp only [playAll]
  cases makeCore g m <;> simp

/-- every move is generated in the position it is made in, and `NoKingCapture` holds of every position on the way -/
def GoodPath : Game → List Move → Prop
  | _, [] => True
  | g, m :: ms => m ∈ generateMoves g true ∧ NoKingCapture g ∧ ∀ g', makeCore g m = some g' → GoodPath g' ms

/-- `GoodPath` without its `NoKingCapture` part -/
def GenPath : Game → List Move → Prop
  | _, [] => True
  | g, m :: ms => m ∈ generateMoves g true ∧ ∀ g', makeCore g m = some g' → GenPath g' ms

/-- from a consistent position in which the side not to move is not in check, every sequence of generated moves that can
    be made ends in a consistent position (on the board `boardAfter`), in which again no capture aims at a
    king, and whose key is the from-scratch key if the root's was -/
theorem history_wf_root (ms : List Move) : ∀ (g0 g : Game) (b0 : Board), Wf g0 b0 → NoKingCapture g0 → GenPath g0 ms →
    playAll g0 ms = some g →
    Wf g (boardAfter b0 g0.white ms) ∧ NoKingCapture g ∧ (g0.key = scratchKey g0 → g.key = scratchKey g) := by
  induction ms with
  | nil =>
    intro g0 g b0 wf nk _ hp
    simp only [playAll, Option.some.injEq] at hp
    subst hp
    exact ⟨wf, nk, fun h => h⟩
  | cons m ms ih =>
    intro g0 g b0 wf nk hg hp
    obtain ⟨hm, hrest⟩ := hg
    obtain ⟨g1, hmk, hp⟩ := playAll_cons_some.1 hp
    obtain ⟨wf1, nk1, hk, _⟩ := made_step wf nk hm hmk
    obtain ⟨r1, r2, r3⟩ := ih g1 g _ wf1 nk1 (hrest g1 hmk) hp
    rw [makeCore_white hmk] at r1
    exact ⟨r1, r2, fun h0 => r3 (hk h0)⟩

theorem GoodPath.genPath : ∀ (ms : List Move) (g : Game), GoodPath g ms → GenPath g ms
  | [], _, _ => trivial
  | _ :: ms, _, ⟨hm, _, hr⟩ => ⟨hm, fun g' h => GoodPath.genPath ms g' (hr g' h)⟩

theorem history_wf (ms : List Move) : ∀ (g0 g : Game) (b0 : Board), Wf g0 b0 → GoodPath g0 ms → playAll g0 ms = some g →
    Wf g (boardAfter b0 g0.white ms) ∧ (g0.key = scratchKey g0 → g.key = scratchKey g) := by
  intro g0 g b0 wf hg hp
  cases ms with
  | nil =>
    simp only [playAll, Option.some.injEq] at hp
    subst hp
    exact ⟨wf, id⟩
  | cons m ms =>
    have h := history_wf_root (m :: ms) g0 g b0 wf hg.2.1 (GoodPath.genPath _ _ hg) hp
    exact ⟨h.1, h.2.2⟩

end Jence
