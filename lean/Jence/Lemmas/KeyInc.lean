/-
  T4.1: `make_search_move` maintains the position key: if the key was the from-scratch key before and the move fits the
  board (`MoveOk`: what a generated move guarantees about the squares it touches), it is the from-scratch key after.
  `take` / `put` keep "key = piece sum + remainder" whenever the bit really changes, and `make_search_move` is a sequence
  of them (Lemmas/MakeNF); the proof proper is the bookkeeping of which bits `MoveOk` promises at each of them.
-/
import Jence.Lemmas.MakeNF
import Jence.Lemmas.XorSum
namespace Jence
open Jence

/-- `σ`: what the key holds besides the piece sum (`sideK g.white` while the pieces move) -/
def KeyRel (g : Game) (σ : UInt64) : Prop := g.key = pieceSum g.bbs ^^^ σ ∧ g.bbs.size = 12

section prim
variable {g : Game} {σ : UInt64} {p s : Nat}

theorem bb_setBB_ne (v : UInt64) {q : Nat} (h : q ≠ p) : (g.setBB p v).bb q = g.bb q :=
  getD_setIfInBounds_ne _ _ _ h

theorem bb_setBB_same (hsz : g.bbs.size = 12) (hp : p < 12) (v : UInt64) : (g.setBB p v).bb p = v :=
  getD_setIfInBounds_self _ _ _ (hsz ▸ hp)

theorem bb_take_ne {q : Nat} (h : q ≠ p) : (g.take p s).bb q = g.bb q := bb_setBB_ne _ h
theorem bb_put_ne {q : Nat} (h : q ≠ p) : (g.put p s).bb q = g.bb q := bb_setBB_ne _ h
theorem bb_take_same (hsz : g.bbs.size = 12) (hp : p < 12) : (g.take p s).bb p = unsetBit (g.bb p) s := bb_setBB_same hsz hp _
theorem bb_put_same (hsz : g.bbs.size = 12) (hp : p < 12) : (g.put p s).bb p = setBit (g.bb p) s := bb_setBB_same hsz hp _

/-- the step under `take` and `put`: piece set `p` becomes `v` and one piece key goes into the key; right when that key is
    the difference of the old and the new set (`hv`) -/
theorem KeyRel.edit (h : KeyRel g σ) (hp : p < 12) {v : UInt64} (hv : xorPiece p v = xorPiece p (g.bb p) ^^^ pieceKey p s) :
    KeyRel { g.setBB p v with key := g.key ^^^ pieceKey p s } σ := by
  refine ⟨?_, by simpa [Game.setBB] using h.2⟩
  show g.key ^^^ pieceKey p s = pieceSum (g.bbs.setIfInBounds p v) ^^^ σ
  rw [pieceSum_set _ p v hp h.2, hv, h.1, xor_right_comm _ σ]
  congr 1
  unfold Game.bb
  generalize xorPiece p (g.bbs.getD p 0) = X
  rw [UInt64.xor_assoc _ X, ← UInt64.xor_assoc X, UInt64.xor_self, UInt64.zero_xor]

theorem KeyRel.take (h : KeyRel g σ) (hp : p < 12) (hs : s < 64) (hb : getBit (g.bb p) s = true) : KeyRel (g.take p s) σ :=
  h.edit hp (xorPiece_unsetBit p _ s hs hb)

theorem KeyRel.put (h : KeyRel g σ) (hp : p < 12) (hs : s < 64) (hb : getBit (g.bb p) s = false) : KeyRel (g.put p s) σ :=
  h.edit hp (xorPiece_setBit p _ s hs hb)

theorem KeyRel.occ (h : KeyRel g σ) (a b c : UInt64) : KeyRel (g.withOcc a b c) σ := h

theorem KeyRel.hop (h : KeyRel g σ) (hp : p < 12) {f t : Nat} (hf : f < 64) (ht : t < 64)
    (hset : getBit (g.bb p) f = true) (hclear : getBit (g.bb p) t = false) : KeyRel ((g.put p t).take p f) σ :=
  (h.put hp ht hclear).take hp hf (by rw [bb_put_same h.2 hp, getBit_setBit _ _ _ ht hf, hset]; rfl)

end prim

/-- the tail (steps 4-6) puts the en-passant and castling keys of the new position in and flips the side key: from
    "piece sum + side key" to the from-scratch key -/
theorem postTail_key (g : Game) (m : Move) (h : KeyRel g (sideK g.white))
    (hd : m.isDoublePush = true → (g.white = true → m.toSq + 8 < 64) ∧ (g.white = false → 8 ≤ m.toSq ∧ m.toSq < 64)) :
    (postSide (postRights (postEp g m) m)).key = scratchKey (postSide (postRights (postEp g m) m)) := by
  have he : postEp g m = { g with ep := (postEp g m).ep, key := g.key ^^^ epK (postEp g m).ep } := by
    have hS : SQNONE = 64 := rfl
    unfold postEp epK
    by_cases hdp : m.isDoublePush = true
    · obtain ⟨hw, hb⟩ := hd hdp
      simp only [hdp, if_true]
      cases hwhite : g.white
      · have := hb hwhite
        rw [if_neg (by simp), if_pos (by simp; omega)]
      · have := hw hwhite
        rw [if_pos rfl, if_pos (by simp; omega)]
    · simp [hdp]
  rw [scratchKey_eq]
  generalize (postEp g m).ep = e at he
  unfold postSide postRights
  rw [he]
  simp only [h.1, sideK_not]
  cases g.white <;> simp only [Bool.not_true, Bool.not_false, Bool.false_eq_true, if_false, if_true] <;> ac_rfl

theorem MoveOk.hop {g : Game} {m : Move} (ok : MoveOk g m) (hpn : m.promotion = PNONE) (hcs : m.isCastling = true) :
    ∃ r f t, rookHop m.toSq = some (r, f, t) ∧ r < 12 ∧ f < 64 ∧ t < 64 ∧ r ≠ m.piece ∧
      getBit (g.bb r) f = true ∧ getBit (g.bb r) t = false := by
  rcases ok.castle hpn hcs with ⟨a, b, c, d⟩ | ⟨a, b, c, d⟩ | ⟨a, b, c, d⟩ | ⟨a, b, c, d⟩ <;> rw [a]
  · exact ⟨WR, 63, 61, rfl, by decide, by decide, by decide, fun h => b h.symm, c, d⟩
  · exact ⟨WR, 56, 59, rfl, by decide, by decide, by decide, fun h => b h.symm, c, d⟩
  · exact ⟨BR, 7, 5, rfl, by decide, by decide, by decide, fun h => b h.symm, c, d⟩
  · exact ⟨BR, 0, 3, rfl, by decide, by decide, by decide, fun h => b h.symm, c, d⟩

/-- the last two parts carry what `MoveOk` promises about the sets of `g` (promotion square, rook's squares) over to the
    sets after these steps -/
theorem makePre_rel (g : Game) (m : Move) (hkey : g.key = scratchKey g) (ok : MoveOk g m) :
    KeyRel (makePre g m) (sideK g.white) ∧ (makePre g m).white = g.white ∧
    getBit ((makePre g m).bb m.piece) m.toSq = true ∧
    (∀ q, q ≠ m.piece → ((g.white = true → q < 6) ∧ (g.white = false → 6 ≤ q)) ∨ m.isCapture = false → (makePre g m).bb q = g.bb q) := by
  have hP := ok.piece
  unfold makePre
  -- step 1 takes the castling and en-passant keys out
  have k1 : (if g.ep != SQNONE then g.key ^^^ epKey g.ep else g.key) ^^^ castleKey g.castling = pieceSum g.bbs ^^^ sideK g.white := by
    rw [hkey, scratchKey_eq]; unfold epK
    split
    · rw [← xor_cancel (pieceSum g.bbs ^^^ sideK g.white) (castleKey g.castling),
        ← xor_cancel (pieceSum g.bbs ^^^ sideK g.white ^^^ _) (epKey g.ep)]
      ac_rfl
    · rw [← xor_cancel (pieceSum g.bbs ^^^ sideK g.white) (castleKey g.castling), UInt64.xor_zero]
      ac_rfl
  have r1 : KeyRel (preKeys g) (sideK g.white) := by rw [preKeys_eq]; exact And.intro k1 ok.size
  have bb1 : ∀ q, (preKeys g).bb q = g.bb q := fun q => by rw [preKeys_eq]; rfl
  have w1 : (preKeys g).white = g.white := by rw [preKeys_eq]
  generalize preKeys g = g1 at r1 bb1 w1 ⊢
  have ra := r1.take hP ok.fromLt (by rw [bb1]; exact ok.src)
  have rb := ra.put hP ok.toLt (by rw [bb_take_same r1.2 hP, getBit_unsetBit _ _ _ ok.fromLt ok.toLt, bb1, ok.dst]; rfl)
  have r2 : KeyRel (preMove g1 m) (sideK g.white) := by rw [preMove_eq]; exact rb.occ _ _ _
  have oth2 : ∀ q, q ≠ m.piece → (preMove g1 m).bb q = g.bb q := fun q hq => by
    rw [preMove_eq, withOcc_bb, bb_put_ne hq, bb_take_ne hq, bb1]
  have to2 : getBit ((preMove g1 m).bb m.piece) m.toSq = true := by
    rw [preMove_eq, withOcc_bb, bb_put_same ra.2 hP, getBit_setBit_self _ _ ok.toLt]
  have w2 : (preMove g1 m).white = g.white := w1
  generalize preMove g1 m = g2 at r2 oth2 to2 w2 ⊢
  obtain ⟨v, hv, e3⟩ := preCapture_eq g2 m
  rw [e3, withOcc_white]
  simp only [withOcc_bb]
  rcases v with _ | ⟨p, s⟩
  · exact ⟨r2.occ _ _ _, w2, to2, fun q hq _ => oth2 q hq⟩
  obtain ⟨hc, hpe, hs⟩ := hv.some
  rw [w2] at hpe hs
  obtain ⟨h1, hcol⟩ := (enemyP_iff_lt _ _).1 hpe
  have hbit : s < 64 ∧ getBit (g2.bb p) s = true := by
    split at hs
    · rename_i he
      obtain ⟨rfl, rfl⟩ := hs
      obtain ⟨ha, hb⟩ := ok.ep he hc
      have := ok.toLt
      cases hw : g.white
      · obtain ⟨n, l, b⟩ := hb hw
        show m.toSq - 8 < 64 ∧ getBit (g2.bb WP) (m.toSq - 8) = true
        exact ⟨by omega, by rw [oth2 _ (Ne.symm n)]; exact b⟩
      · obtain ⟨n, l, b⟩ := ha hw
        show m.toSq + 8 < 64 ∧ getBit (g2.bb BP) (m.toSq + 8) = true
        exact ⟨l, by rw [oth2 _ (Ne.symm n)]; exact b⟩
    · exact ⟨hs.1 ▸ ok.toLt, hs.2⟩
  have hown : ∀ q, (g.white = true → q < 6) ∧ (g.white = false → 6 ≤ q) → q ≠ p := fun q ⟨a, b⟩ heq => by
    subst heq
    cases hw : g.white
    · exact absurd (hcol.2 hw) (by have := b hw; omega)
    · have := a hw
      rw [hw] at hcol
      exact absurd (hcol.1 this) (by simp)
  refine ⟨(r2.take h1 hbit.1 hbit.2).occ _ _ _, w2, ?_, fun q hq ho => ?_⟩
  · show getBit ((g2.take p s).bb m.piece) m.toSq = true
    rw [bb_take_ne (hown _ ok.mover)]; exact to2
  · show (g2.take p s).bb q = g.bb q
    rcases ho with ho | ho
    · rw [bb_take_ne (hown _ ho)]; exact oth2 q hq
    · exact absurd hc (by simp [ho])

theorem makePost_key (g : Game) (m : Move) (h : KeyRel g (sideK g.white)) (hP : m.piece < 12) (hT : m.toSq < 64)
    (hpromo : m.promotion ≠ PNONE → m.promotion < 12 ∧ m.promotion ≠ m.piece ∧ getBit (g.bb m.promotion) m.toSq = false ∧
      getBit (g.bb m.piece) m.toSq = true)
    (hcastle : m.promotion = PNONE → m.isCastling = true → ∃ r f t, rookHop m.toSq = some (r, f, t) ∧ r < 12 ∧ f < 64 ∧ t < 64 ∧
      getBit (g.bb r) f = true ∧ getBit (g.bb r) t = false)
    (hd : m.isDoublePush = true → (g.white = true → m.toSq + 8 < 64) ∧ (g.white = false → 8 ≤ m.toSq)) :
    (makePost g m).key = scratchKey (makePost g m) := by
  unfold makePost
  have c4 : (postClock (postOcc g m) m).bbs = g.bbs ∧ (postClock (postOcc g m) m).key = g.key ∧
      (postClock (postOcc g m) m).white = g.white := by
    rw [postClock_eq, postOcc_eq]; exact ⟨rfl, rfl, rfl⟩
  obtain ⟨b4, k4, w4⟩ := c4
  generalize postClock (postOcc g m) m = g4 at b4 k4 w4 ⊢
  have r4 : KeyRel g4 (sideK g.white) := ⟨by rw [k4, b4]; exact h.1, by rw [b4]; exact h.2⟩
  have bb4 : ∀ q, g4.bb q = g.bb q := fun q => by unfold Game.bb; rw [b4]
  have r5 : KeyRel (postSpecial g4 m) (sideK g.white) := by
    rw [postSpecial_eq]
    split
    · rename_i hpr
      obtain ⟨p1, p2, p3, p4⟩ := hpromo hpr
      exact (r4.put p1 hT (by rw [bb4]; exact p3)).take hP hT (by rw [bb_put_ne (fun e => p2 e.symm), bb4]; exact p4)
    · rename_i hpn
      split
      · rename_i hcs
        obtain ⟨r, f, t, hh, h1, h2, h3, hs, hc⟩ := hcastle (by simpa using hpn) hcs
        rw [hh]
        show KeyRel (castleRook g4 r f t) _
        rw [castleRook_eq]
        exact (r4.hop h1 h2 h3 (by rw [bb4]; exact hs) (by rw [bb4]; exact hc)).occ _ _ _
      · exact r4
  have w5 : (postSpecial g4 m).white = g.white := (Game.meta_eq (postSpecial_meta g4 m)).1.trans w4
  refine postTail_key _ m (by rw [w5]; exact r5) (fun hdp => ?_)
  rw [w5]
  exact ⟨(hd hdp).1, fun hw => ⟨(hd hdp).2 hw, hT⟩⟩

/-- T4.1: the incrementally maintained key is the from-scratch key of the new position -/
theorem makeCore_key (g g' : Game) (m : Move) (hkey : g.key = scratchKey g) (ok : MoveOk g m)
    (hmk : makeCore g m = some g') : g'.key = scratchKey g' := by
  rw [makeCore_some hmk]
  obtain ⟨r, w, hto, hbb⟩ := makePre_rel g m hkey ok
  refine makePost_key _ m (by rw [w]; exact r) ok.piece ok.toLt (fun hpr => ?_) (fun hpn hcs => ?_) (by rw [w]; exact ok.dpush)
  · obtain ⟨p1, p2, p3, p4, _⟩ := ok.promo hpr
    exact ⟨p1, p2, by rw [hbb _ p2 (Or.inl p4)]; exact p3, hto⟩
  · obtain ⟨r, f, t, hh, h1, h2, h3, hne, hs, hc⟩ := MoveOk.hop ok hpn hcs
    have := hbb r hne (Or.inr (ok.castleNoCap hcs))
    exact ⟨r, f, t, hh, h1, h2, h3, by rw [this]; exact hs, by rw [this]; exact hc⟩

end Jence
