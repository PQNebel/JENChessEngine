/-
  C04, last clause: the key tables contain no zero and no repeated entry (849 keys: 768 piece keys, 64 en-passant keys,
  16 castling keys, the side key), and the three keys of a simple capture never cancel; both decided by the kernel on the
  tables the model computes from the generated seeds.

  The kernel takes some hundred reduction steps for every element a list function passes, so a key is first looked up in
  the bitmap of the residues mod 2^16 of the set (one step on a big number, erring only towards "present"), and the set
  itself is searched only on a hit.
-/
import Jence.Model.Zobrist
import Jence.Lemmas.BitAlgebra
namespace Jence
open Jence

def allKeys : List UInt64 :=
  keyStream 768 Gen.PIECE_SEED.toUInt64 ++ keyStream 64 Gen.ENPASSANT_SEED.toUInt64 ++ keyStream 16 Gen.CASTLE_SEED.toUInt64 ++ [SIDE_KEY]

def residues (l : List Nat) : Nat := l.foldl (fun b k => b ||| 1 <<< (k % 65536)) 0

/-- `x ∉ l`, given the bitmap `B` of the residues of `l`. The first test is `!B.testBit (x % 65536)` in the bare functions
    on `Nat`: those the kernel computes on numerals at once, while `testBit`, `%` and `!=` it first unfolds through their
    instances, once per element passed. -/
def absent (l : List Nat) (B x : Nat) : Bool :=
  Nat.beq (Nat.land 1 (Nat.shiftRight B (Nat.mod x 65536))) 0 || l.all (!Nat.beq x ·)

theorem testBit_foldl_residue (i : Nat) : ∀ (l : List Nat) (b : Nat), (b.testBit i = true ∨ ∃ k ∈ l, k % 65536 = i) →
    (l.foldl (fun b k => b ||| 1 <<< (k % 65536)) b).testBit i = true
  | [], b, h => by simpa using h
  | k :: l, b, h => by
    refine testBit_foldl_residue i l _ ?_
    rw [Nat.testBit_or, Nat.one_shiftLeft, Nat.testBit_two_pow]
    rcases h with h | ⟨k', hk', rfl⟩
    · exact .inl (by simp [h])
    · rcases List.mem_cons.1 hk' with rfl | hk'
      · exact .inl (by simp)
      · exact .inr ⟨k', hk', rfl⟩

theorem testBit_residues {l : List Nat} {x : Nat} (h : x ∈ l) : (residues l).testBit (x % 65536) = true :=
  testBit_foldl_residue _ l 0 (.inr ⟨x, h, rfl⟩)

theorem absent_sound {l : List Nat} {B x : Nat} (hB : ∀ k ∈ l, B.testBit (k % 65536) = true) (h : absent l B x = true) : x ∉ l := by
  intro hx
  have hb : Nat.beq (Nat.land 1 (Nat.shiftRight B (Nat.mod x 65536))) 0 = !B.testBit (x % 65536) := by
    rw [Nat.testBit, bne, Bool.not_not, Bool.eq_iff_iff, Nat.beq_eq_true_eq, Nat.beq_eq]; rfl
  simp only [absent, hb, hB x hx, Bool.not_true, Bool.false_or, List.all_eq_true] at h
  simpa using h x hx

/-- each element is looked up among those after it, so the bitmap grows from the right -/
def distinctH : List Nat → Nat × Bool
  | [] => (0, true)
  | x :: xs => let r := distinctH xs; (r.1 ||| 1 <<< (x % 65536), r.2 && absent xs r.1 x)

theorem distinctH_spec : ∀ l : List Nat, (∀ k ∈ l, (distinctH l).1.testBit (k % 65536) = true) ∧ ((distinctH l).2 = true → l.Nodup)
  | [] => ⟨by simp, fun _ => List.nodup_nil⟩
  | x :: xs => by
    obtain ⟨h1, h2⟩ := distinctH_spec xs
    refine ⟨fun k hk => ?_, fun h => ?_⟩
    · simp only [distinctH, Nat.testBit_or, Nat.one_shiftLeft, Nat.testBit_two_pow]
      rcases List.mem_cons.1 hk with rfl | hk
      · simp
      · simp [h1 k hk]
    · simp only [distinctH, Bool.and_eq_true] at h
      exact List.nodup_cons.2 ⟨absent_sound h1 h.2, h2 h.1⟩

/- A copy of `rand32`, `rand64`, `keyStream` on `Nat`, on which the sweeps run: the kernel computes on numbers directly
   and unfolds every `UInt64` operation through several layers. -/

def rand32N (n : Nat) : Nat :=
  let n := n ^^^ (n <<< 13) % 2 ^ 64
  let n := n ^^^ (n >>> 17)
  let n := n ^^^ (n <<< 5) % 2 ^ 64
  n &&& 0xFFFFFFFF

def rand64N (s : Nat) : Nat × Nat :=
  let n1 := rand32N s
  let n2 := rand32N n1
  let n3 := rand32N n2
  let n4 := rand32N n3
  (n1 ||| (n2 <<< 16) % 2 ^ 64 ||| (n3 <<< 32) % 2 ^ 64 ||| (n4 <<< 48) % 2 ^ 64, n4)

def keyStreamN : Nat → Nat → List Nat
  | 0, _ => []
  | n + 1, st => (rand64N st).1 :: keyStreamN n (rand64N st).2

theorem rand32_toNat (s : UInt64) : (rand32 s).toNat = rand32N s.toNat := by
  simp [rand32, rand32N, UInt64.toNat_xor, UInt64.toNat_shiftLeft, UInt64.toNat_shiftRight, UInt64.toNat_and]

theorem rand64_toNat (s : UInt64) : (rand64 s).1.toNat = (rand64N s.toNat).1 ∧ (rand64 s).2.toNat = (rand64N s.toNat).2 := by
  simp [rand64, rand64N, UInt64.toNat_or, UInt64.toNat_shiftLeft, rand32_toNat]

theorem keyStream_toNat : ∀ (n : Nat) (s : UInt64), (keyStream n s).map UInt64.toNat = keyStreamN n s.toNat
  | 0, _ => rfl
  | n + 1, s => by
    simp only [keyStream, keyStreamN, List.map_cons, (rand64_toNat s).1, ← (rand64_toNat s).2, keyStream_toNat n]

theorem seeds_toNat : Gen.PIECE_SEED.toUInt64.toNat = Gen.PIECE_SEED ∧ Gen.ENPASSANT_SEED.toUInt64.toNat = Gen.ENPASSANT_SEED ∧
    Gen.CASTLE_SEED.toUInt64.toNat = Gen.CASTLE_SEED ∧ Gen.SIDE_SEED.toUInt64.toNat = Gen.SIDE_SEED := by decide

def allKeysN : List Nat :=
  keyStreamN 768 Gen.PIECE_SEED ++ keyStreamN 64 Gen.ENPASSANT_SEED ++ keyStreamN 16 Gen.CASTLE_SEED ++ [(rand64N Gen.SIDE_SEED).1]

theorem allKeys_toNat : allKeys.map UInt64.toNat = allKeysN := by
  obtain ⟨s1, s2, s3, s4⟩ := seeds_toNat
  simp only [allKeys, allKeysN, SIDE_KEY, List.map_append, List.map_cons, List.map_nil, keyStream_toNat, (rand64_toNat _).1,
    s1, s2, s3, s4]

theorem keys_decided : (distinctH allKeysN).2 = true ∧ allKeysN.all (!Nat.beq 0 ·) = true ∧ allKeysN.length = 849 := by
  decide +kernel

theorem key_tables_sound : allKeys.Nodup ∧ (0 : UInt64) ∉ allKeys ∧ allKeys.length = 849 := by
  obtain ⟨h1, h2, h3⟩ := keys_decided
  rw [← allKeys_toNat] at h1 h2 h3
  refine ⟨List.Pairwise.of_map UInt64.toNat (fun _ _ hab e => hab (congrArg _ e)) ((distinctH_spec _).2 h1), fun hm => ?_,
    by rw [← h3, List.length_map]⟩
  simpa using List.all_eq_true.1 h2 0 (List.mem_map.2 ⟨0, hm, rfl⟩)

theorem tables_are_allKeys : PIECE_KEYS_FLAT.toList ++ ENPASSANT_KEYS.toList ++ CASTLE_KEYS.toList ++ [SIDE_KEY] = allKeys := by
  simp [PIECE_KEYS_FLAT, ENPASSANT_KEYS, CASTLE_KEYS, allKeys]

theorem keyStream_length : ∀ (n : Nat) (st : UInt64), (keyStream n st).length = n := by
  intro n; induction n with
  | zero => intro st; rfl
  | succ n ih => intro st; simp [keyStream, ih]

theorem pieceKey_eq_stream (p sq : Nat) (h : p * 64 + sq < 768) :
    pieceKey p sq = (keyStream 768 Gen.PIECE_SEED.toUInt64)[p * 64 + sq]'(by rw [keyStream_length]; exact h) := by
  unfold pieceKey PIECE_KEYS_FLAT
  rw [Array.getD_eq_getD_getElem?, List.getElem?_toArray, List.getElem?_eq_getElem (by rw [keyStream_length]; exact h)]
  rfl

theorem pieceKey_eq (p sq : Nat) (h : p * 64 + sq < 768) : pieceKey p sq = allKeys[p * 64 + sq]'(by rw [key_tables_sound.2.2]; omega) := by
  rw [pieceKey_eq_stream p sq h]
  unfold allKeys
  rw [List.getElem_append_left (by simp [keyStream_length]; omega), List.getElem_append_left (by simp [keyStream_length]; omega),
    List.getElem_append_left]

theorem piece_keys_distinct (p a q b : Nat) (hp : p < 12) (ha : a < 64) (hq : q < 12) (hb : b < 64) (hne : ¬ (p = q ∧ a = b)) :
    pieceKey p a ≠ pieceKey q b := by
  rw [pieceKey_eq p a (by omega), pieceKey_eq q b (by omega)]
  intro h
  have := (List.getElem_inj key_tables_sound.1).1 h
  omega

theorem quiet_move_changes_key (k : UInt64) (p a b : Nat) (hp : p < 12) (ha : a < 64) (hb : b < 64) (hab : a ≠ b) :
    k ^^^ pieceKey p a ^^^ pieceKey p b ≠ k := by
  rw [UInt64.xor_assoc]
  exact xor_ne_self fun h => piece_keys_distinct p a p b hp ha hp hb (fun h => hab h.2) (UInt64.xor_eq_zero_iff.1 h)

theorem side_switch_changes_key (k : UInt64) : k ^^^ SIDE_KEY ≠ k :=
  xor_ne_self fun h => key_tables_sound.2.1 (by rw [← h]; simp [allKeys])

/-- the piece keys as numbers, one row per piece (taken off the stream by `drop`/`take`: reading them through
    `pieceKey`, an array access, makes the kernel walk the table once per key) -/
def pieceRows : List (List Nat) :=
  (List.range 12).map fun p => ((keyStreamN 768 Gen.PIECE_SEED).drop (p * 64)).take 64

theorem pieceRows_eq : pieceRows = (List.range 12).map fun p => (List.range 64).map fun a => (pieceKey p a).toNat := by
  refine List.map_congr_left fun p hp => ?_
  have hp := List.mem_range.1 hp
  rw [← seeds_toNat.1, ← keyStream_toNat]
  refine List.ext_getElem (by simp [keyStream_length]; omega) fun a h1 h2 => ?_
  have ha : a < 64 := by simpa using h2
  simp only [List.getElem_map, List.getElem_take, List.getElem_drop, List.getElem_range]
  rw [pieceKey_eq_stream p a (by omega)]

/-- `(List.zipWith Nat.xor xs ys).all (absent row B)` in one pass -/
def noneIn (row : List Nat) (B : Nat) : List Nat → List Nat → Bool
  | x :: xs, y :: ys => absent row B (Nat.xor x y) && noneIn row B xs ys
  | _, _ => true

theorem noneIn_eq (row : List Nat) (B : Nat) : ∀ xs ys, noneIn row B xs ys = (List.zipWith Nat.xor xs ys).all (absent row B)
  | x :: xs, y :: ys => by simp [noneIn, noneIn_eq row B xs ys]
  | [], _ => by simp [noneIn]
  | _ :: _, [] => by simp [noneIn]

/-- for every piece `p`: none of the numbers `key p b ^^^ key v b` is a key of `p` -/
def captureOk : Bool :=
  pieceRows.all fun row => pieceRows.all fun rowv => noneIn row (residues row) row rowv

theorem capture_ok : captureOk = true := by decide +kernel

theorem capture_of_ok (p a b v : Nat) (hp : p < 12) (ha : a < 64) (hb : b < 64) (hv : v < 12) :
    pieceKey p a ^^^ pieceKey p b ^^^ pieceKey v b ≠ 0 := by
  have h := capture_ok
  simp only [captureOk, noneIn_eq, pieceRows_eq, List.all_eq_true, List.mem_map, List.mem_range] at h
  have := absent_sound (fun _ => testBit_residues) (h _ ⟨p, hp, rfl⟩ _ ⟨v, hv, rfl⟩ ((pieceKey p b).toNat ^^^ (pieceKey v b).toNat) (by
    rw [List.zipWith_map, List.zipWith_self]
    exact List.mem_map.2 ⟨b, List.mem_range.2 hb, rfl⟩))
  intro h0
  rw [UInt64.xor_assoc, UInt64.xor_eq_zero_iff] at h0
  exact this (List.mem_map.2 ⟨a, List.mem_range.2 ha, by rw [h0, UInt64.toNat_xor]⟩)

/-- a piece `p` goes from `a` to `b` and the piece `v` that stood on `b` disappears -/
theorem simple_capture_changes_key (k : UInt64) (p a b v : Nat) (hp : p < 12) (ha : a < 64) (hb : b < 64) (hv : v < 12) :
    k ^^^ pieceKey p a ^^^ pieceKey p b ^^^ pieceKey v b ≠ k := by
  rw [UInt64.xor_assoc, UInt64.xor_assoc, ← UInt64.xor_assoc (pieceKey p a)]
  exact xor_ne_self (capture_of_ok p a b v hp ha hb hv)

end Jence
