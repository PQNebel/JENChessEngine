/-
  Leapers: the knight, king and pawn attack tables are the rules' jump patterns (`Spec.jumps`) from every square
  (`IsLeaper`), and what that says about where a pawn or a king can capture (`pawn_attack_geom`, `king_attack_geom`).
-/
import Jence.Lemmas.Squares
import Jence.Lemmas.ListExtra
import Jence.Model.Tables
namespace Jence
open Jence

theorem mem_jumps (sq : Nat) (offs : List (Int × Int)) (t : Nat) :
    t ∈ Spec.jumps sq offs ↔ ∃ d ∈ offs, Spec.onBoard (Spec.fileOf sq + d.1) (Spec.rowOf sq + d.2) = true ∧
      t = Spec.sqOf (Spec.fileOf sq + d.1) (Spec.rowOf sq + d.2) := by
  simp only [Spec.jumps, List.mem_filterMap]
  constructor
  · rintro ⟨d, hd, h⟩
    by_cases hb : Spec.onBoard (Spec.fileOf sq + d.1) (Spec.rowOf sq + d.2) = true
    · rw [if_pos hb] at h; exact ⟨d, hd, hb, (Option.some.inj h).symm⟩
    · rw [if_neg hb] at h; exact absurd h (by simp)
  · rintro ⟨d, hd, hb, rfl⟩
    exact ⟨d, hd, by rw [if_pos hb]⟩

theorem jumps_lt (sq : Nat) (offs : List (Int × Int)) : ∀ t ∈ Spec.jumps sq offs, t < 64 := by
  intro t ht
  obtain ⟨d, _, hb, rfl⟩ := (mem_jumps sq offs t).1 ht
  exact sqOf_lt _ _ hb

theorem jumps_nodup (sq : Nat) (offs : List (Int × Int)) (hoffs : offs.Nodup) : (Spec.jumps sq offs).Nodup := by
  unfold Spec.jumps List.Nodup
  rw [List.pairwise_filterMap]
  apply List.Pairwise.imp_of_mem _ hoffs
  intro d d' _ _ hne x hx y hy hxy
  simp only at hx hy
  split at hx
  · rename_i h1
    split at hy
    · rename_i h2
      simp only [Option.some.injEq] at hx hy
      rw [← hx, ← hy] at hxy
      obtain ⟨e1, e2⟩ := sqOf_inj _ _ _ _ h1 h2 hxy
      exact hne (Prod.ext (by omega) (by omega))
    · simp at hy
  · simp at hx

def IsLeaper (get : Nat → UInt64) (offs : List (Int × Int)) : Prop := ∀ s, s < 64 → get s = Spec.toBits (Spec.jumps s offs)

theorem IsLeaper.mem {get : Nat → UInt64} {offs : List (Int × Int)} (h : IsLeaper get offs) (s t : Nat) (hs : s < 64) (ht : t < 64) :
    getBit (get s) t = true ↔ t ∈ Spec.jumps s offs := by
  rw [h s hs, getBit_toBits _ _ (jumps_lt _ _) ht, decide_eq_true_eq]

/-- the hypothesis compares numbers: that is what the kernel evaluates fastest -/
theorem isLeaper_of_toNat (f : Nat → UInt64) (offs : List (Int × Int))
    (h : ∀ sq, sq < 64 → (f sq).toNat = (Spec.toBits (Spec.jumps sq offs)).toNat) :
    IsLeaper (fun s => ((Array.range 64).map f).getD s 0) offs :=
  fun s hs => (getD_map_range f s hs).trans (UInt64.toNat_inj.1 (h s hs))

theorem knight_isLeaper : IsLeaper getKnightAttacks Spec.knightJumps :=
  isLeaper_of_toNat knightAttacksOf _ (by decide +kernel)

theorem king_isLeaper : IsLeaper getKingAttacks Spec.kingSteps :=
  isLeaper_of_toNat kingAttacksOf _ (by decide +kernel)

/-- on all 64 squares: `is_square_attacked` consults the pawn tables in the reverse direction, also on the rows where no
    pawn can stand -/
theorem pawn_isLeaper : ∀ w, IsLeaper (getPawnAttacks · w) (if w then [(-1, -1), (1, -1)] else [(-1, 1), (1, 1)])
  | true => isLeaper_of_toNat (pawnAttacksOf true) _ (by decide +kernel)
  | false => isLeaper_of_toNat (pawnAttacksOf false) _ (by decide +kernel)

/-- row and file of the target, not its number: linear goals for `omega` once the offsets are listed -/
theorem mem_jumps_coord (sq t : Nat) (offs : List (Int × Int)) :
    t ∈ Spec.jumps sq offs ↔ ∃ d ∈ offs, 0 ≤ ((sq % 8 : Nat) : Int) + d.1 ∧ ((sq % 8 : Nat) : Int) + d.1 ≤ 7 ∧
      0 ≤ ((sq / 8 : Nat) : Int) + d.2 ∧ ((sq / 8 : Nat) : Int) + d.2 ≤ 7 ∧
      ((t / 8 : Nat) : Int) = ((sq / 8 : Nat) : Int) + d.2 ∧ ((t % 8 : Nat) : Int) = ((sq % 8 : Nat) : Int) + d.1 := by
  rw [mem_jumps]
  refine exists_congr fun d => and_congr_right fun _ => ?_
  rw [onBoard_iff]
  simp only [Spec.fileOf, Spec.rowOf, Spec.sqOf]
  omega

theorem pawn_attack_geom (w : Bool) (f t : Nat) (hf : f < 64) (ht : t < 64) :
    getBit (getPawnAttacks f w) t = true ↔
      (if w then t / 8 + 1 = f / 8 else f / 8 + 1 = t / 8) ∧ (t % 8 + 1 = f % 8 ∨ f % 8 + 1 = t % 8) := by
  -- rows and files become variables with their bounds: `omega` is then spared the divisions
  have h1 : t % 8 < 8 := Nat.mod_lt t (by decide)
  have h2 : t / 8 < 8 := by omega
  refine ((pawn_isLeaper w).mem f t hf ht).trans ?_
  rw [mem_jumps_coord]
  cases w
  all_goals
    simp only [Bool.false_eq_true, if_true, if_false, List.mem_cons, List.not_mem_nil, or_false, exists_eq_or_imp, exists_eq_left]
    generalize t % 8 = a, t / 8 = b, f % 8 = c, f / 8 = d at *
    omega

/-- a king step never spans two files on one row -/
theorem king_step_geom (sq t : Nat) (h : t ∈ Spec.jumps sq Spec.kingSteps) : ¬ (t = sq + 2 ∨ t + 2 = sq) := by
  rw [mem_jumps_coord] at h
  simp only [Spec.kingSteps, Spec.rookDirs, Spec.bishopDirs, List.cons_append, List.nil_append, List.mem_cons, List.not_mem_nil,
    or_false, exists_eq_or_imp, exists_eq_left] at h
  omega

theorem king_attack_geom (f t : Nat) (hf : f < 64) (ht : t < 64) (h : getBit (getKingAttacks f) t = true) :
    ¬ (t = f + 2 ∨ t + 2 = f) :=
  king_step_geom f t ((king_isLeaper.mem f t hf ht).1 h)

end Jence
