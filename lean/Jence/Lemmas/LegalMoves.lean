/-
  T1.3: the engine's legal moves are the rules' legal moves. For a consistent position in which the side not to move is
  not in check, a rules move is legal in the position the engine's position denotes iff it is the `smove` of a move in
  `legal_values` (generated, and accepted by the legality test); neither list repeats a move, so the two agree as
  multisets (`legal_perm`). With one ply of the simulation (`Sim.step`) this is what perft against the rules rests on.
-/
import Jence.Lemmas.CastleRefine
import Jence.Lemmas.SpecNodup
import Jence.Lemmas.GenNodup
import Jence.Lemmas.Legality
namespace Jence
open Jence

/-- **T1.3** For every consistent position in which the side not to move is not in check: a rules move is legal in the
    position the engine's position denotes iff it is the move denoted by an element of `legal_values`. -/
theorem legal_refines {g : Game} {b : Board} (wf : Wf g b) (nk : NoKingCapture g) (sm : Spec.SMove) :
    sm ∈ Spec.legalMoves (Spec.abs g) ↔ ∃ m ∈ legalValues g, smove m = sm := by
  have hpw : (Spec.abs g).white = g.white := rfl
  have heng : (∃ m ∈ legalValues g, smove m = sm) ↔
      (∃ m ∈ castlingMoves g true, smove m = sm ∧ (makeCore g m).isSome = true) ∨
      (∃ m ∈ genNonCastle g, smove m = sm ∧ (makeCore g m).isSome = true) := by
    rw [Props.C01.legalValues_eq_made g wf.ok.epLe]
    simp only [List.mem_filter]
    constructor
    · rintro ⟨m, ⟨hm, hacc⟩, hs⟩
      rcases (mem_castling_or_nonCastle g m).1 hm with h | h
      · exact Or.inl ⟨m, h, hs, hacc⟩
      · exact Or.inr ⟨m, h, hs, hacc⟩
    · rintro (⟨m, h, hs, hacc⟩ | ⟨m, h, hs, hacc⟩)
      · exact ⟨m, ⟨(mem_castling_or_nonCastle g m).2 (Or.inl h), hacc⟩, hs⟩
      · exact ⟨m, ⟨(mem_castling_or_nonCastle g m).2 (Or.inr h), hacc⟩, hs⟩
  rw [heng]
  unfold Spec.legalMoves
  rw [spec_pseudoLegal_eq, List.filter_append, List.mem_append, hpw]
  have hnon : sm ∈ (specNonCastle (Spec.abs g)).filter (fun m => !Spec.inCheck (Spec.apply (Spec.abs g) m) g.white) ↔
      ∃ m ∈ genNonCastle g, smove m = sm ∧ (makeCore g m).isSome = true := by
    -- `make_search_move` accepts a non-castling move iff the rules' successor leaves the mover out of check
    have key := fun m (hm : m ∈ genNonCastle g) =>
      have hgen := (mem_castling_or_nonCastle g m).2 (Or.inr hm)
      legal_noncastle wf (gen_fits wf nk true m hgen) (gen_flags wf true m hgen) (genNonCastle_notCastle g wf.ok.epLe m hm)
    rw [List.mem_filter, nonCastle_refines wf]
    exact ⟨fun ⟨⟨m, hm, hs⟩, hleg⟩ => ⟨m, hm, hs, by rw [key m hm, hs]; exact hleg⟩,
      fun ⟨m, hm, hs, hacc⟩ => ⟨⟨m, hm, hs⟩, by rw [key m hm, hs] at hacc; exact hacc⟩⟩
  rw [castle_refines wf sm, hnon]
  exact Or.comm

section made
variable {g : Game} {b : Board}

theorem legal_iff_made (wf : Wf g b) (nk : NoKingCapture g) (sm : Spec.SMove) :
    sm ∈ Spec.legalMoves (Spec.abs g) ↔ ∃ m ∈ generateMoves g true, (makeCore g m).isSome = true ∧ smove m = sm := by
  rw [legal_refines wf nk sm, Props.C01.legalValues_eq_made g wf.ok.epLe]
  simp only [List.mem_filter, and_assoc]

theorem made_is_legal (wf : Wf g b) (nk : NoKingCapture g) {c : Game} {m : Move} (hm : m ∈ generateMoves g true)
    (hmk : makeCore g m = some c) : smove m ∈ Spec.legalMoves (Spec.abs g) :=
  (legal_iff_made wf nk _).2 ⟨m, hm, by rw [hmk]; rfl, rfl⟩

theorem no_made_no_legal (wf : Wf g b) (nk : NoKingCapture g) (h : ∀ m ∈ generateMoves g true, makeCore g m = none) : Spec.legalMoves (Spec.abs g) = [] := by
  refine List.eq_nil_iff_forall_not_mem.2 fun sm hsm => ?_
  obtain ⟨m, hm, hs, _⟩ := (legal_iff_made wf nk sm).1 hsm
  rw [h m hm] at hs
  cases hs

end made

theorem Sim.step {g g' : Game} {b : Board} {d : Nat} {m : Move} (s : Sim g b (d + 1)) (hm : m ∈ generateMoves g true)
    (hmk : makeCore g m = some g') :
    Sim g' (applyB b g.white m) d ∧ smove m ∈ Spec.legalMoves (Spec.abs g) ∧
    Spec.abs g' = Spec.apply (Spec.abs g) (smove m) := by
  obtain ⟨wf', nk', _, _, habs⟩ := made_step s.wf s.nk hm hmk
  obtain ⟨ch, cf⟩ := (Game.meta_eq (makeCore_meta hmk)).2.2.2
  have hh := s.half
  have hf := s.full
  refine ⟨⟨wf', nk', ?_, ?_⟩, made_is_legal s.wf s.nk hm hmk, habs (by omega) (by omega)⟩
  · rw [ch]; split
    · omega
    · rw [Nat.mod_eq_of_lt (by omega)]; omega
  · rw [cf]; split
    · omega
    · rw [Nat.mod_eq_of_lt (by omega)]; omega

theorem legal_perm {g : Game} {b : Board} (wf : Wf g b) (nk : NoKingCapture g) :
    ((legalValues g).map smove).Perm (Spec.legalMoves (Spec.abs g)) := by
  have hsub : ∀ m ∈ legalValues g, m ∈ generateMoves g true := fun m hm => (List.mem_filter.1 hm).1
  have n1 : ((legalValues g).map smove).Nodup := by
    apply nodup_map_inj
    · exact List.Nodup.sublist List.filter_sublist (generateMoves_nodup wf)
    · intro a ha b' hb' h; exact smove_inj wf nk a b' (hsub a ha) (hsub b' hb') h
  rw [List.perm_ext_iff_of_nodup n1 (spec_legal_nodup wf)]
  intro sm
  rw [legal_refines wf nk sm, List.mem_map]

end Jence
