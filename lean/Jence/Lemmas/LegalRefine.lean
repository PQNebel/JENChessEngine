/-
  Check against the rules. `is_square_attacked` and `is_in_check` say what the rules say of the position a consistent
  engine position denotes; the legality test of `make_search_move` (is the mover's king attacked in the position it has
  built so far?) is the rules' "in check in the successor position"; and what one accepted generated move does to a
  consistent position is said once (`Made`), with what a line of play against the rules carries along (`Sim`).
-/
import Jence.Lemmas.AttackLookup
import Jence.Lemmas.ApplyRefine
import Jence.Lemmas.GenFlags
import Jence.Lemmas.NoKing
namespace Jence
open Jence

theorem attacked_refines {g : Game} {b : Board} (wf : Wf g b) (sq : Nat) (hsq : sq < 64) (byWhite : Bool) :
    isSquareAttacked g sq byWhite = Spec.attacked (Spec.abs g) sq byWhite := by
  rw [Bool.eq_iff_iff]
  constructor
  · intro h
    obtain ⟨X, f, hX, hf, hbit, hatt⟩ := attacker_of_attacked g sq hsq byWhite h
    have hX12 := ownP_lt hX
    unfold Spec.attacked
    rw [List.any_eq_true]
    refine ⟨f, List.mem_range.2 hf, ?_⟩
    have hb := (wf.bit_iff hX12 hf).1 hbit
    rw [abs_at wf f hf, hb]
    simp only [Option.map_some, Bool.and_eq_true]
    refine ⟨(pieceOf_white X byWhite hX12).2 hX, ?_⟩
    rw [List.contains_iff_mem, attackedFrom_congr _ _ (abs_occupied wf)]
    exact (attacksOf_spec g.allOcc X f sq hX12 hf hsq).1 hatt
  · intro h
    unfold Spec.attacked at h
    rw [List.any_eq_true] at h
    obtain ⟨s, hs, h⟩ := h
    have hs64 := List.mem_range.1 hs
    rw [abs_at wf s hs64] at h
    cases hb : b s with
    | none => rw [hb] at h; simp at h
    | some X =>
      rw [hb] at h
      simp only [Option.map_some, Bool.and_eq_true] at h
      have hX12 := wf.ok.valid s X hs64 hb
      have hX := (pieceOf_white X byWhite hX12).1 h.1
      have hmem := h.2
      rw [List.contains_iff_mem, attackedFrom_congr _ _ (abs_occupied wf)] at hmem
      have hatt := (attacksOf_spec g.allOcc X s sq hX12 hs64 hsq).2 hmem
      exact attacked_of_attacker g sq s X hsq hs64 byWhite hX ((wf.bit_iff hX12 hs64).2 hb) hatt

theorem king_square {g : Game} {b : Board} (wf : Wf g b) (white : Bool) :
    ∃ k, k < 64 ∧ tzcnt (g.bb (if white then WK else BK)) = k ∧ Spec.kingSquare (Spec.abs g) white = some k := by
  have hK12 : (if white then WK else BK) < 12 := by cases white <;> decide
  obtain ⟨k, hk, hbk, hu⟩ := wf.king_unique white
  refine ⟨k, hk, tzcnt_piece wf.rep hK12 hk hbk hu, ?_⟩
  unfold Spec.kingSquare
  have hpk : pieceOf (if white then WK else BK) = ⟨white, .king⟩ := by cases white <;> rfl
  apply find?_range_unique 64 k _ hk
  · rw [abs_at wf k hk, hbk]; simp [hpk]
  · intro j hj h
    rw [abs_at wf j hj] at h
    cases hb : b j with
    | none => rw [hb] at h; simp at h
    | some q =>
      rw [hb] at h
      simp only [Option.map_some, beq_iff_eq, Option.some.injEq] at h
      rw [← hpk] at h
      have := pieceOf_inj q (wf.ok.valid j q hj hb) _ hK12 h
      exact hu j hj (by rw [hb, this])

/-- of any rules position: unfolded over `Spec.abs g`, the kernel would evaluate the board array -/
theorem inCheck_of_king (p : Spec.Position) {w : Bool} {k : Nat} (h : Spec.kingSquare p w = some k) :
    Spec.inCheck p w = Spec.attacked p k (!w) := by
  unfold Spec.inCheck; rw [h]

theorem inCheck_refines {g : Game} {b : Board} (wf : Wf g b) (white : Bool) :
    isInCheck g white = Spec.inCheck (Spec.abs g) white := by
  obtain ⟨k, hk, htz, hks⟩ := king_square wf white
  rw [isInCheck_eq, htz, inCheck_of_king _ hks]
  exact attacked_refines wf k hk (!white)

theorem attacked_carries_over {g1 g2 : Game} {b1 b2 : Board} (r1 : Rep g1.bbs b1 none) (r2 : Rep g2.bbs b2 none)
    (hall : g2.allOcc = g1.allOcc) (k : Nat) (hk : k < 64) (w : Bool)
    (hkeep : ∀ f X, ownP w X → b1 f = some X → b2 f = some X) (h : isSquareAttacked g1 k w = true) :
    isSquareAttacked g2 k w = true := by
  obtain ⟨k', _, hS, h'⟩ := attack_transfer_board r1 r2 k hk w (· == k) hkeep (fun t _ _ ho => by rw [hall]; exact ho)
    (beq_self_eq_true k) h
  rw [← beq_iff_eq.1 hS]; exact h'

theorem check_pre_post {g : Game} {b : Board} {m : Move} (wf : Wf g b) (fits : MoveFits b g.white m) (hnc : m.isCastling = false) :
    isInCheck (makePre g m) g.white = isInCheck (makeForce g m) g.white := by
  have wf' := makeForce_wf wf fits
  obtain ⟨k, hk, hbk, htz1, htz2⟩ := pre_king_square wf fits
  have hpre := makePre_rep wf.rep fits
  have hall : (makeForce g m).allOcc = (makePre g m).allOcc := (makeForce_occ_plain g m (Or.inr hnc)).2.2
  have hen : ∀ X, ownP (!g.white) X → enemyP g.white X := fun X => (enemyP_iff_other g.white X).2
  rw [isInCheck_eq, isInCheck_eq, htz1, htz2]
  exact Bool.eq_iff_iff.2
    ⟨attacked_carries_over hpre wf'.rep hall k hk _ fun f X hX => (pre_post_iff fits f X (Or.inl (hen X hX))).1,
     attacked_carries_over wf'.rep hpre hall.symm k hk _ fun f X hX => (pre_post_iff fits f X (Or.inl (hen X hX))).2⟩

theorem inCheck_board (p q : Spec.Position) (h : p.board = q.board) (w : Bool) : Spec.inCheck p w = Spec.inCheck q w := by
  have hat : ∀ s, Spec.at_ p s = Spec.at_ q s := by intro s; unfold Spec.at_; rw [h]
  have hocc : Spec.occupiedIn p = Spec.occupiedIn q := by funext s; unfold Spec.occupiedIn; rw [hat]
  have hatt : ∀ sq by_, Spec.attacked p sq by_ = Spec.attacked q sq by_ := by
    intro sq by_; unfold Spec.attacked; simp only [hat, hocc]
  unfold Spec.inCheck Spec.kingSquare
  simp only [hat, hatt]

/-- needs no clock hypotheses, unlike `apply_refines` -/
theorem apply_board {g : Game} {b : Board} {m : Move} (wf : Wf g b) (fits : MoveFits b g.white m)
    (flags : FlagsTrue b g.white g.ep m) : (Spec.abs (makeForce g m)).board = (Spec.apply (Spec.abs g) (smove m)).board := by
  rw [apply_eq _ _ _ (abs_src wf fits)]
  exact Holds.ext (abs_holds (makeForce_wf wf fits)) (specBoard_holds wf fits flags)

theorem legal_noncastle {g : Game} {b : Board} {m : Move} (wf : Wf g b) (fits : MoveFits b g.white m)
    (flags : FlagsTrue b g.white g.ep m) (hnc : m.isCastling = false) :
    (makeCore g m).isSome = !Spec.inCheck (Spec.apply (Spec.abs g) (smove m)) g.white := by
  rw [makeCore_eq, makePre_white, check_pre_post wf fits hnc, inCheck_refines (makeForce_wf wf fits),
    inCheck_board _ _ (apply_board wf fits flags)]
  cases Spec.inCheck (Spec.apply (Spec.abs g) (smove m)) g.white <;> rfl

/-- what one accepted generated move does to a consistent position; `abs` needs the clocks below their `u8` / `u16`
    limits, which `Spec.apply` does not model -/
structure Made (g g' : Game) (b : Board) (m : Move) : Prop where
  wf : Wf g' (applyB b g.white m)
  nk : NoKingCapture g'
  key : g.key = scratchKey g → g'.key = scratchKey g'
  board : (Spec.abs g').board = (Spec.apply (Spec.abs g) (smove m)).board
  abs : g.halfMoves < 255 → g.fullMoves < 65535 → Spec.abs g' = Spec.apply (Spec.abs g) (smove m)

theorem made_step {g g' : Game} {b : Board} {m : Move} {all : Bool} (wf : Wf g b) (nk : NoKingCapture g)
    (hm : m ∈ generateMoves g all) (hmk : makeCore g m = some g') : Made g g' b m := by
  have fits := gen_fits wf nk all m hm
  have flags := gen_flags wf all m hm
  obtain rfl := makeCore_some hmk
  exact ⟨makeCore_wf g _ m b wf fits hmk, makeCore_nk g _ m b wf fits hmk,
    fun hkey => makeCore_wf_key g _ m b wf fits hkey hmk, apply_board wf fits flags,
    fun h1 h2 => apply_refines wf fits flags hmk h1 h2⟩

/-- a consistent position in which the side not to move is not in check, with room on both clocks for `d` more plies:
    what every statement that follows a line of play against the rules carries along -/
structure Sim (g : Game) (b : Board) (d : Nat) : Prop where
  wf : Wf g b
  nk : NoKingCapture g
  half : g.halfMoves + d < 255
  full : g.fullMoves + d < 65535

end Jence
