/-
  T1.2: the legality filter (`is_legal`, a peek-make) and the make route (`make_search_move` rejecting moves that leave
  the mover in check) are one predicate on every move whose en-passant flag implies its capture flag - in particular
  on every generated move; hence the legal list is the generated list that `make` accepts (`legalValues_eq_made`).
-/
import Jence.Model.MoveGen
import Jence.Lemmas.GenMem
namespace Jence
open Jence

theorem isSquareAttacked_congr (g h : Game) (hb : g.bbs = h.bbs) (ha : g.allOcc = h.allOcc) (sq : Nat) (w : Bool) :
    isSquareAttacked g sq w = isSquareAttacked h sq w := by
  unfold isSquareAttacked Game.bb
  rw [hb, ha]

theorem isInCheck_congr (g h : Game) (hb : g.bbs = h.bbs) (ha : g.allOcc = h.allOcc) (w : Bool) :
    isInCheck g w = isInCheck h w := by
  unfold isInCheck
  rw [isSquareAttacked_congr g h hb ha, isSquareAttacked_congr g h hb ha]
  simp only [Game.bb, hb]

/-- the capture loop reads and writes piece sets only: from positions with the same piece sets it leaves the same piece sets,
    and combined occupancy and side as they were (these three fields are the "view": what the check test reads) -/
theorem captureLoop_view (start sq : Nat) : ∀ (n k : Nat) (g h : Game), g.bbs = h.bbs →
    (captureLoop g start sq n k).1.bbs = (captureLoop h start sq n k).1.bbs ∧
    (captureLoop g start sq n k).1.allOcc = g.allOcc ∧ (captureLoop g start sq n k).1.white = g.white := by
  intro n
  induction n with
  | zero => intro k g h e; exact ⟨e, rfl, rfl⟩
  | succ n ih =>
    intro k g h e
    have eb : h.bb (start + k) = g.bb (start + k) := by unfold Game.bb; rw [e]
    simp only [captureLoop, eb]
    by_cases hb : getBit (g.bb (start + k)) sq = true
    · simp only [hb, ↓reduceIte, Game.setBB, e, and_self]
    · simp only [hb]; exact ih (k + 1) g h e

/-- patching the key leaves these three fields as they are -/
theorem keyed_view (r : Game × Option Nat) (sq : Nat) :
    (match r with | (g', some p) => { g' with key := g'.key ^^^ pieceKey p sq } | (g', none) => g').bbs = r.1.bbs ∧
    (match r with | (g', some p) => { g' with key := g'.key ^^^ pieceKey p sq } | (g', none) => g').allOcc = r.1.allOcc ∧
    (match r with | (g', some p) => { g' with key := g'.key ^^^ pieceKey p sq } | (g', none) => g').white = r.1.white := by
  obtain ⟨g', o⟩ := r; cases o <;> exact ⟨rfl, rfl, rfl⟩

theorem preCapture_capture_view (g : Game) (m : Move) (hC : m.isCapture = true) (hE : m.isEnpassant = false) :
    (preCapture g m).bbs = (captureLoop g (if g.white then BP else WP) m.toSq 5 0).1.bbs ∧
    (preCapture g m).allOcc = g.allOcc ∧ (preCapture g m).white = g.white := by
  have v := keyed_view (captureLoop (if g.white then { g with blackOcc := unsetBit g.blackOcc m.toSq }
      else { g with whiteOcc := unsetBit g.whiteOcc m.toSq }) (if g.white then BP else WP) m.toSq 5 0) m.toSq
  have c := captureLoop_view (if g.white then BP else WP) m.toSq 5 0 (if g.white then { g with blackOcc := unsetBit g.blackOcc m.toSq }
      else { g with whiteOcc := unsetBit g.whiteOcc m.toSq }) g (by split <;> rfl)
  unfold preCapture
  rw [if_pos hC, if_neg (by rw [hE]; simp)]
  exact ⟨v.1.trans c.1, v.2.1.trans (c.2.1.trans (by split <;> rfl)), v.2.2.trans (c.2.2.trans (by split <;> rfl))⟩

/-- the peek-make of `is_legal` and the first half of `make_search_move` agree on the two fields the check test reads -/
theorem peek_eq_pre (g : Game) (m : Move) (hep : m.isEnpassant = true → m.isCapture = true) :
    (isLegalPeek g m).bbs = (makePre g m).bbs ∧ (isLegalPeek g m).allOcc = (makePre g m).allOcc ∧ (makePre g m).white = g.white := by
  -- `preKeys` patches the key only
  have key : ∀ K : UInt64, (isLegalPeek g m).bbs = (preCapture (preMove { g with key := K } m) m).bbs ∧
      (isLegalPeek g m).allOcc = (preCapture (preMove { g with key := K } m) m).allOcc ∧
      (preCapture (preMove { g with key := K } m) m).white = g.white := by
    intro K
    cases hC : m.isCapture
    · have hE : m.isEnpassant = false := by cases h : m.isEnpassant; rfl; rw [hep h] at hC; cases hC
      unfold isLegalPeek preCapture preMove
      simp only [hC, hE, Bool.false_eq_true, ↓reduceIte]
      exact ⟨rfl, rfl, rfl⟩
    · cases hE : m.isEnpassant
      · obtain ⟨p1, p2, p3⟩ := preCapture_capture_view (preMove { g with key := K } m) m hC hE
        rw [p1, p2, p3]
        unfold isLegalPeek
        rw [if_neg (by rw [hE]; simp), if_pos hC]
        refine ⟨(captureLoop_view _ _ 5 0 _ _ ?_).1, (captureLoop_view _ _ 5 0 _ _ rfl).2.1, rfl⟩
        rfl
      · -- the colour is split before the definitions are opened: afterwards it occurs all over the goal
        cases hw : g.white <;> unfold isLegalPeek preCapture preMove <;>
          simp only [hC, hE, hw, ↓reduceIte, Game.setBB, Game.bb, Bool.false_eq_true, and_self]
  unfold makePre preKeys
  split <;> exact key _

/-- **T1.2** For every position and every move whose en-passant flag implies its capture flag (every generated move):
    the legality filter accepts the move exactly when `make` does. -/
theorem legality_paths_agree (g : Game) (m : Move) (hep : m.isEnpassant = true → m.isCapture = true) :
    isLegal g m = (makeCore g m).isSome := by
  unfold isLegal makeCore
  obtain ⟨h1, h2, h3⟩ := peek_eq_pre g m hep
  have : isInCheck (isLegalPeek g m) g.white = isInCheck (makePre g m) (makePre g m).white := by
    rw [h3]; exact isInCheck_congr _ _ h1 h2 _
  simp only [this]
  cases isInCheck (makePre g m) (makePre g m).white <;> simp

end Jence

/-! Under the property's namespace, as C01 names it among its results (T1.2). -/
namespace Jence.Props.C01
open Jence

theorem legalValues_eq_made (g : Game) (hep : g.ep ≤ 64) :
    legalValues g = (generateMoves g true).filter (fun m => (makeCore g m).isSome) := by
  apply List.filter_congr
  intro m hm
  exact Jence.legality_paths_agree g m (generated_shape g true hep m hm).ep_imp_cap

end Jence.Props.C01
