/-
  `make_search_move` on the board view: if the piece sets hold the board `b` and the move fits it (`MoveFits`), the piece
  sets afterwards hold `applyB b w m`: piece moved, captured piece gone, en-passant pawn gone, pawn replaced on promotion,
  rook hopped on castling. The engine tests for check on the way, on `preBoard`; `postBoard` is the rest of the way.
  `FlagsTrue`: the special-move flags of a move word are set exactly when the move is one. A move that fits the board of
  piece sets that hold it is `MoveOk` (`MoveFits.moveOk`), so the key theorem (T4.1) applies to it.
  What `applyB` holds square by square (`applyB_at`, `applyB_some`, `applyB_keep`) stands with it.
-/
import Jence.Lemmas.Board
import Jence.Lemmas.MakeNF
import Jence.Lemmas.MovePack
namespace Jence
open Jence

/-- the move fits the board: what its fields claim about the squares it touches is what the board `b` holds (`MoveOk` of the
    model says it of the piece sets; `MoveFits.moveOk` leads from here to there) -/
structure MoveFits (b : Board) (w : Bool) (m : Move) : Prop where
  piece : ownP w m.piece
  fromLt : m.fromSq < 64
  toLt : m.toSq < 64
  src : b m.fromSq = some m.piece
  quiet : m.isCapture = false → b m.toSq = none
  cap : m.isCapture = true → m.isEnpassant = false →
    ∃ v, b m.toSq = some v ∧ enemyP w v ∧ v ≠ (if w then BK else WK)
  ep : m.isEnpassant = true → m.isCapture = true ∧ b m.toSq = none ∧ (w = true → m.toSq + 8 < 64) ∧ (w = false → 8 ≤ m.toSq) ∧
    b (vsq w m.toSq) = some (if w then BP else WP) ∧ m.promotion = PNONE ∧ m.isCastling = false
  promo : m.promotion ≠ PNONE → ownP w m.promotion ∧ m.promotion ≠ m.piece
  castle : m.isCastling = true → m.promotion = PNONE ∧ m.isCapture = false ∧
    ∃ r f t, rookHop m.toSq = some (r, f, t) ∧ b f = some r ∧ b t = none ∧ m.fromSq ≠ f ∧ m.fromSq ≠ t ∧ ownP w r ∧ m.piece ≠ r
  /-- the kings' home squares: e1 = 60, e8 = 4 (a8 is square 0, h1 square 63) -/
  castleFrom : m.isCastling = true → m.fromSq = (if w then 60 else 4) ∧ m.piece = (if w then WK else BK)
  /-- for the new board: no king arises from or vanishes in a promotion (`king_keep`), no pawn arises (`applyB_pawns`) -/
  promoKind : m.promotion ≠ PNONE → m.piece = (if w then WP else BP) ∧ m.promotion ≠ WP ∧ m.promotion ≠ BP ∧
    m.promotion ≠ WK ∧ m.promotion ≠ BK
  /-- for the new board: a pawn that arrives stands on ranks 2-7 (`applyB_pawns`) -/
  pawnTo : m.piece = (if w then WP else BP) → m.promotion = PNONE → 8 ≤ m.toSq ∧ m.toSq < 56
  dpush : m.isDoublePush = true → m.piece = (if w then WP else BP) ∧ m.isCapture = false ∧ m.promotion = PNONE ∧
    m.isCastling = false ∧ (w = true → m.toSq + 16 = m.fromSq ∧ b (m.toSq + 8) = none) ∧
    (w = false → m.fromSq + 16 = m.toSq ∧ b (m.toSq - 8) = none)

/-- the special-move flags of the move are truthful: set exactly when the move is one by the rules' own description -/
structure FlagsTrue (b : Board) (w : Bool) (ep : Nat) (m : Move) : Prop where
  epIff : m.isEnpassant = true ↔ (m.piece = (if w then WP else BP) ∧ ep = m.toSq ∧ m.fromSq % 8 ≠ m.toSq % 8 ∧ b m.toSq = none)
  epRow : m.isEnpassant = true → (w = true → m.fromSq / 8 = m.toSq / 8 + 1) ∧ (w = false → m.fromSq / 8 + 1 = m.toSq / 8)
  castleIff : m.isCastling = true ↔ (m.piece = (if w then WK else BK) ∧ (m.toSq = m.fromSq + 2 ∨ m.toSq + 2 = m.fromSq))
  dpushIff : m.isDoublePush = true ↔ (m.piece = (if w then WP else BP) ∧ (m.toSq = m.fromSq + 16 ∨ m.toSq + 16 = m.fromSq))

/-- the piece that stands on the target square after the move (`applyB_to`) -/
def landed (m : Move) : Nat := if m.promotion ≠ PNONE then m.promotion else m.piece

/-- the board after the move; `specBoard_holds` (Lemmas/ApplyRefine) ties it to `Spec.apply` of the rules -/
def applyB (b : Board) (w : Bool) (m : Move) : Board :=
  let b1 := b.set m.fromSq none
  let b2 := if m.isEnpassant then b1.set (vsq w m.toSq) none else b1
  let b3 := b2.set m.toSq (some (if m.promotion ≠ PNONE then m.promotion else m.piece))
  if m.isCastling then
    match rookHop m.toSq with
    | some (r, f, t) => (b3.set f none).set t (some r)
    | none => b3
  else b3

/-- what `postSpecial` does, on the board -/
def postBoard (b : Board) (m : Move) : Board :=
  if m.promotion ≠ PNONE then b.set m.toSq (some m.promotion)
  else if m.isCastling then (match rookHop m.toSq with | some (r, f, t) => (b.set f none).set t (some r) | none => b)
  else b

/-- the board `make_search_move` tests for check on: piece moved, victim gone, promotion and rook hop still to come -/
def preBoard (b : Board) (w : Bool) (m : Move) : Board :=
  (if m.isEnpassant then (b.set m.fromSq none).set (vsq w m.toSq) none else b.set m.fromSq none).set m.toSq (some m.piece)

theorem preBoard_to (b : Board) (w : Bool) (m : Move) : preBoard b w m m.toSq = some m.piece := Board.set_same _ _ _

section fitting
variable {b : Board} {w : Bool} {m : Move}

theorem MoveFits.ep_cap (fits : MoveFits b w m) (hc : m.isCapture = false) : m.isEnpassant = false := by
  cases he : m.isEnpassant
  · rfl
  · have := (fits.ep he).1; rw [hc] at this; exact absurd this (by simp)

theorem MoveFits.target (fits : MoveFits b w m) {q : Nat} (h : b m.toSq = some q) :
    enemyP w q ∧ q ≠ (if w then BK else WK) := by
  cases hc : m.isCapture
  · rw [fits.quiet hc] at h; exact absurd h (by simp)
  · cases he : m.isEnpassant
    · obtain ⟨v, hv, hen, hnk⟩ := fits.cap hc he
      rw [hv] at h; injection h with h
      rw [← h]; exact ⟨hen, hnk⟩
    · rw [(fits.ep he).2.1] at h; exact absurd h (by simp)

theorem MoveFits.target_not (fits : MoveFits b w m) (q : Nat) (hq : ownP w q) : b m.toSq ≠ some q := fun h => own_not_enemy hq (fits.target h).1

theorem MoveFits.to_ne_from (fits : MoveFits b w m) : m.toSq ≠ m.fromSq := fun heq =>
  own_not_enemy fits.piece (fits.target (heq ▸ fits.src)).1

theorem MoveFits.vsq_facts (fits : MoveFits b w m) (he : m.isEnpassant = true) :
    vsq w m.toSq ≠ m.toSq ∧ vsq w m.toSq ≠ m.fromSq ∧ vsq w m.toSq < 64 ∧ enemyP w (if w then BP else WP) := by
  obtain ⟨_, hto, hlt, hge, hv, _, _⟩ := fits.ep he
  have hen : enemyP w (if w then BP else WP) := enemyP_ite w (by decide) (by decide)
  refine ⟨?_, ?_, ?_, hen⟩
  · unfold vsq; cases w
    · have := hge rfl; simp; omega
    · simp
  · -- the victim is an enemy pawn, the piece on the source square is the mover's
    intro heq; rw [heq, fits.src] at hv; injection hv with hv
    exact own_not_enemy fits.piece (by rw [hv]; exact hen)
  · unfold vsq; cases w
    · have := fits.toLt; simp; omega
    · have := hlt rfl; simp; omega

/-- what `fits.castle` says, about the rook hop at hand; the rook is the mover's -/
theorem MoveFits.rook (fits : MoveFits b w m) (hcs : m.isCastling = true) {r f t : Nat} (hhop : rookHop m.toSq = some (r, f, t)) :
    b f = some r ∧ b t = none ∧ ownP w r ∧ r = if w then WR else BR := by
  obtain ⟨_, _, r', f', t', hhop', hbf, hbt, _, _, hro, _⟩ := fits.castle hcs
  rw [hhop] at hhop'; injection hhop' with e; injection e with e1 e2; injection e2 with e2 e3
  subst e1; subst e2; subst e3
  exact ⟨hbf, hbt, hro, ownP_eq_ite hro (A := WR) (by decide) (rookHop_rook hhop)⟩

theorem preBoard_other (s : Nat) (h1 : s ≠ m.toSq) (h2 : s ≠ m.fromSq)
    (h3 : m.isEnpassant = true → s ≠ vsq w m.toSq) : preBoard b w m s = b s := by
  unfold preBoard
  rw [Board.set_ne h1]
  split
  · rename_i he; rw [Board.set_ne (h3 he), Board.set_ne h2]
  · rw [Board.set_ne h2]

theorem applyB_eq (fits : MoveFits b w m) : applyB b w m = postBoard (preBoard b w m) m := by
  unfold applyB postBoard preBoard
  by_cases hpr : m.promotion ≠ PNONE
  · have hcs : ¬ m.isCastling = true := fun h => hpr (fits.castle h).1
    rw [if_neg hcs, if_pos hpr, if_pos hpr, Board.set_set]
  · rw [if_neg hpr, if_neg hpr]

theorem movedPiece_lt (fits : MoveFits b w m) : m.piece < 12 := ownP_lt fits.piece

theorem applyB_ep (fits : MoveFits b w m) (he : m.isEnpassant = true) :
    applyB b w m = ((b.set m.fromSq none).set (vsq w m.toSq) none).set m.toSq (some m.piece) := by
  obtain ⟨_, _, _, _, _, hpn, hcs⟩ := fits.ep he
  unfold applyB
  simp only [he, if_true, hcs, Bool.false_eq_true, if_false]
  rw [if_neg (by simp [hpn])]

theorem applyB_plain (he : m.isEnpassant = false) (hcs : m.isCastling = false) :
    applyB b w m = (b.set m.fromSq none).set m.toSq (some (if m.promotion ≠ PNONE then m.promotion else m.piece)) := by
  unfold applyB
  simp only [he, hcs, Bool.false_eq_true, if_false]

theorem applyB_castle (fits : MoveFits b w m) (hcs : m.isCastling = true) (r f t : Nat)
    (hhop : rookHop m.toSq = some (r, f, t)) :
    applyB b w m = (((b.set m.fromSq none).set m.toSq (some m.piece)).set f none).set t (some r) := by
  obtain ⟨hpn, hc, _⟩ := fits.castle hcs
  have he := fits.ep_cap hc
  unfold applyB
  simp only [he, hcs, Bool.false_eq_true, if_false, if_true, hhop]
  rw [if_neg (by simp [hpn])]

theorem applyB_to (fits : MoveFits b w m) : applyB b w m m.toSq = some (landed m) := by
  by_cases hcs : m.isCastling = true
  · obtain ⟨hpn, _, r, f, t, hhop, _, _, _, _, _, _⟩ := fits.castle hcs
    obtain ⟨n1, n2, _⟩ := rookHop_ne hhop
    rw [applyB_castle fits hcs r f t hhop, Board.set_ne (fun h => n2 h.symm), Board.set_ne (fun h => n1 h.symm),
      Board.set_same]
    unfold landed; rw [if_neg (by simp [hpn])]
  · have hcf : m.isCastling = false := by simpa using hcs
    by_cases he : m.isEnpassant = true
    · rw [applyB_ep fits he, Board.set_same]
      unfold landed; rw [if_neg (by simp [(fits.ep he).2.2.2.2.2.1])]
    · have hef : m.isEnpassant = false := by simpa using he
      rw [applyB_plain hef hcf, Board.set_same]; rfl

theorem applyB_to_piece (fits : MoveFits b w m) (hpn : m.promotion = PNONE) : applyB b w m m.toSq = some m.piece := by
  rw [applyB_to fits]; unfold landed; rw [if_neg (by simp [hpn])]

theorem applyB_from (fits : MoveFits b w m) : applyB b w m m.fromSq = none := by
  have hne := fits.to_ne_from
  by_cases hcs : m.isCastling = true
  · obtain ⟨hpn, _, r, f, t, hhop, _, _, hff, hft, _, _⟩ := fits.castle hcs
    rw [applyB_castle fits hcs r f t hhop, Board.set_ne hft, Board.set_ne hff,
      Board.set_ne (fun h => hne h.symm), Board.set_same]
  · have hcf : m.isCastling = false := by simpa using hcs
    by_cases he : m.isEnpassant = true
    · obtain ⟨_, v2, _, _⟩ := fits.vsq_facts he
      rw [applyB_ep fits he, Board.set_ne (fun h => hne h.symm), Board.set_ne (fun h => v2 h.symm), Board.set_same]
    · have hef : m.isEnpassant = false := by simpa using he
      rw [applyB_plain hef hcf, Board.set_ne (fun h => hne h.symm), Board.set_same]

theorem applyB_at (fits : MoveFits b w m) (t : Nat) :
    (t = m.toSq ∧ applyB b w m t = some (landed m)) ∨
    (t = m.fromSq ∧ applyB b w m t = none) ∨
    (m.isEnpassant = true ∧ t = vsq w m.toSq ∧ applyB b w m t = none) ∨
    (m.isCastling = true ∧ ∃ r f tt, rookHop m.toSq = some (r, f, tt) ∧ ((t = f ∧ applyB b w m t = none) ∨ (t = tt ∧ applyB b w m t = some r))) ∨
    (t ≠ m.toSq ∧ t ≠ m.fromSq ∧ (m.isEnpassant = true → t ≠ vsq w m.toSq) ∧
      (m.isCastling = true → ∀ r f tt, rookHop m.toSq = some (r, f, tt) → t ≠ f ∧ t ≠ tt) ∧ applyB b w m t = b t) := by
  by_cases h1 : t = m.toSq
  · left; exact ⟨h1, by rw [h1]; exact applyB_to fits⟩
  by_cases h2 : t = m.fromSq
  · right; left; exact ⟨h2, by rw [h2]; exact applyB_from fits⟩
  by_cases hcs : m.isCastling = true
  · obtain ⟨hpn, hc, r, f, tt, hhop, _, _, hff, hft, _, _⟩ := fits.castle hcs
    obtain ⟨n1, n2, n3, _⟩ := rookHop_ne hhop
    have he := fits.ep_cap hc
    rw [applyB_castle fits hcs r f tt hhop]
    by_cases h3 : t = tt
    · right; right; right; left
      exact ⟨hcs, r, f, tt, hhop, Or.inr ⟨h3, by rw [h3, Board.set_same]⟩⟩
    by_cases h4 : t = f
    · right; right; right; left
      exact ⟨hcs, r, f, tt, hhop, Or.inl ⟨h4, by rw [h4, Board.set_ne (fun h => n3 h.symm), Board.set_same]⟩⟩
    right; right; right; right
    refine ⟨h1, h2, fun h => by rw [he] at h; exact absurd h (by simp), ?_, ?_⟩
    · intro _ r' f' t' hh; rw [hhop] at hh; injection hh with hh; injection hh with _ hh; injection hh with e2 e3
      subst e2; subst e3; exact ⟨h4, h3⟩
    · rw [Board.set_ne h3, Board.set_ne h4, Board.set_ne h1, Board.set_ne h2]
  · have hcf : m.isCastling = false := by simpa using hcs
    by_cases he : m.isEnpassant = true
    · rw [applyB_ep fits he]
      by_cases h3 : t = vsq w m.toSq
      · right; right; left
        obtain ⟨v1, _, _, _⟩ := fits.vsq_facts he
        exact ⟨he, h3, by rw [h3, Board.set_ne v1, Board.set_same]⟩
      right; right; right; right
      refine ⟨h1, h2, fun _ => h3, fun h => by rw [hcf] at h; exact absurd h (by simp), ?_⟩
      rw [Board.set_ne h1, Board.set_ne h3, Board.set_ne h2]
    · have hef : m.isEnpassant = false := by simpa using he
      rw [applyB_plain hef hcf]
      right; right; right; right
      refine ⟨h1, h2, fun h => by rw [hef] at h; exact absurd h (by simp), fun h => by rw [hcf] at h; exact absurd h (by simp), ?_⟩
      rw [Board.set_ne h1, Board.set_ne h2]

theorem applyB_some (fits : MoveFits b w m) {t q : Nat} (h : applyB b w m t = some q) :
    b t = some q ∨ (t = m.toSq ∧ q = landed m) ∨ (m.isCastling = true ∧ ∃ f, rookHop m.toSq = some (q, f, t)) := by
  rcases applyB_at fits t with ⟨ht, hv⟩ | ⟨_, hv⟩ | ⟨_, _, hv⟩ | ⟨hcs, r, f, tt, hhop, hh⟩ | ⟨_, _, _, _, hv⟩
  · rw [hv] at h; injection h with h
    exact Or.inr (Or.inl ⟨ht, h.symm⟩)
  · rw [hv] at h; exact absurd h (by simp)
  · rw [hv] at h; exact absurd h (by simp)
  · rcases hh with ⟨_, hv⟩ | ⟨ht, hv⟩
    · rw [hv] at h; exact absurd h (by simp)
    · rw [hv] at h; injection h with h
      subst h; subst ht
      exact Or.inr (Or.inr ⟨hcs, f, hhop⟩)
  · rw [hv] at h; exact Or.inl h

theorem landed_own (fits : MoveFits b w m) : ownP w (landed m) := by
  unfold landed; split
  · rename_i h; exact (fits.promo h).1
  · exact fits.piece

theorem applyB_keep (fits : MoveFits b w m) (s q : Nat) (hs : b s = some q) (hq : q ≠ WP ∧ q ≠ BP) (h1 : s ≠ m.toSq) (h2 : s ≠ m.fromSq)
    (h3 : m.isCastling = true → ∀ r f tt, rookHop m.toSq = some (r, f, tt) → s ≠ f ∧ s ≠ tt) : applyB b w m s = some q := by
  rcases applyB_at fits s with ⟨h, _⟩ | ⟨h, _⟩ | ⟨he, h, _⟩ | ⟨hcs, r, f, tt, hhop, h⟩ | ⟨_, _, _, _, h⟩
  · exact absurd h h1
  · exact absurd h h2
  · have := (fits.ep he).2.2.2.2.1
    rw [← h, hs] at this; injection this with this
    cases w
    · exact absurd this hq.1
    · exact absurd this hq.2
  · obtain ⟨a, b'⟩ := h3 hcs r f tt hhop
    rcases h with ⟨h, _⟩ | ⟨h, _⟩
    · exact absurd h a
    · exact absurd h b'
  · rw [h, hs]

end fitting

section stages
variable (g : Game) (m : Move) (b : Board)

theorem preMove_rep (h : Rep g.bbs b none) (hp : m.piece < 12) (hf : m.fromSq < 64)
    (ht : m.toSq < 64) (hsrc : b m.fromSq = some m.piece) :
    Rep (preMove g m).bbs (b.set m.fromSq none) (some (m.piece, m.toSq)) := by
  have h1 := rep_unset g.bbs b none m.piece m.fromSq h hp hf hsrc (by simp)
  exact rep_set _ _ m.piece m.toSq h1 hp ht

theorem preCapture_rep (b1 : Board) (w : Bool) (hw : g.white = w) (fits : MoveFits b w m)
    (hb1 : b1 = b.set m.fromSq none) (h : Rep g.bbs b1 (some (m.piece, m.toSq))) :
    Rep (preCapture g m).bbs
      (if m.isCapture then (if m.isEnpassant then b1.set (vsq w m.toSq) none else b1.set m.toSq none) else b1)
      (some (m.piece, m.toSq)) := by
  obtain ⟨v, hv, e⟩ := preCapture_eq g m
  rw [e]
  show Rep (g.takeOpt v).bbs _ _
  have hv' := hv
  unfold Victim at hv'
  rw [hw] at hv'
  have hne := fits.to_ne_from
  by_cases hc : m.isCapture = true
  · rw [if_pos hc] at hv' ⊢
    by_cases he : m.isEnpassant = true
    · rw [if_pos he] at hv' ⊢
      subst hv'
      obtain ⟨v1, v2, v3, ven⟩ := fits.vsq_facts he
      have hv1 : b1 (vsq w m.toSq) = some (if w then BP else WP) := by
        rw [hb1, Board.set_ne v2]; exact (fits.ep he).2.2.2.2.1
      exact rep_unset g.bbs b1 _ _ _ h ((enemyP_iff_lt _ _).1 ven).1 v3 hv1 (by
        intro h'; injection h' with h'; injection h' with _ h'; exact v1 h'.symm)
    · rw [if_neg he] at hv' ⊢
      obtain ⟨x, hx, hen, hnk⟩ := fits.cap hc (by simpa using he)
      have hx1 : b1 m.toSq = some x := by rw [hb1, Board.set_ne hne]; exact hx
      have hxl := ((enemyP_iff_lt _ _).1 hen).1
      have hxp : x ≠ m.piece := fun heq => own_not_enemy fits.piece (heq ▸ hen)
      -- of the enemy's sets only that of `x` has the target square
      have hbits : ∀ p, p < 12 → p ≠ m.piece → getBit (g.bb p) m.toSq = decide (x = p) := by
        intro p hp hpp
        show getBit (g.bbs.getD p 0) m.toSq = _
        rw [h.2 p m.toSq hp fits.toLt, hx1]
        have : ¬ (m.piece = p) := fun h => hpp h.symm
        simp [this]
      rcases v with _ | ⟨p, s⟩
      · -- `x` is in the range the scan goes through
        have hrange := (captureScan_range w x).2 ⟨hen, hnk⟩
        have := hv'.2 rfl x hrange.1 hrange.2
        rw [hbits x hxl hxp] at this
        simp at this
      · obtain ⟨_, hpe, hs⟩ := hv.some
        rw [if_neg he] at hs
        obtain ⟨rfl, hbit⟩ := hs
        rw [hw] at hpe
        have hpp : p ≠ m.piece := fun heq => own_not_enemy fits.piece (heq ▸ hpe)
        have hpx : x = p := by simpa [hbits p ((enemyP_iff_lt _ _).1 hpe).1 hpp] using hbit
        subst hpx
        exact rep_unset g.bbs b1 _ x m.toSq h hxl fits.toLt hx1 (by
          intro h'; injection h' with h'; injection h' with h' _; exact hxp h'.symm)
  · rw [if_neg hc] at hv' ⊢
    subst hv'
    exact h

theorem castleRook_rep (rook f t : Nat) (h : Rep g.bbs b none) (hr : rook < 12) (hf : f < 64)
    (ht : t < 64) (hbf : b f = some rook) (hbt : b t = none) (hne : t ≠ f) :
    Rep (castleRook g rook f t).bbs ((b.set f none).set t (some rook)) none := by
  rw [castleRook_eq]
  have h1 := rep_set g.bbs b rook t h hr ht
  have h2 := rep_unset _ b _ rook f h1 hr hf hbf (by
    intro h'; injection h' with h'; injection h' with _ h'; exact hne h')
  exact rep_merge _ _ rook t h2 (by rw [Board.set_ne hne]; exact hbt)

theorem postSpecial_rep (h : Rep g.bbs b none) (hp : m.piece < 12) (ht : m.toSq < 64)
    (hto : b m.toSq = some m.piece)
    (hpromo : m.promotion ≠ PNONE → m.promotion < 12 ∧ m.promotion ≠ m.piece)
    (hcastle : m.promotion = PNONE → m.isCastling = true →
      ∃ r f t, rookHop m.toSq = some (r, f, t) ∧ b f = some r ∧ b t = none) :
    Rep (postSpecial g m).bbs (postBoard b m) none := by
  rw [postSpecial_eq]
  unfold postBoard
  by_cases hpr : m.promotion ≠ PNONE
  · rw [if_pos hpr, if_pos hpr]
    obtain ⟨hq, hne⟩ := hpromo hpr
    have h1 := rep_set g.bbs b m.promotion m.toSq h hq ht
    have h2 := rep_unset _ b _ m.piece m.toSq h1 hp ht hto (by
      intro h'; injection h' with h'; injection h' with h' _; exact hne h')
    have h3 := rep_merge _ _ m.promotion m.toSq h2 (by simp)
    rw [Board.set_set] at h3
    exact h3
  · rw [if_neg hpr, if_neg hpr]
    by_cases hcs : m.isCastling = true
    · rw [if_pos hcs, if_pos hcs]
      obtain ⟨r, f, t, hhop, hbf, hbt⟩ := hcastle (by simpa using hpr) hcs
      obtain ⟨_, _, n3, hr, hf, htl⟩ := rookHop_ne hhop
      rw [hhop]
      exact castleRook_rep g b r f t h hr hf htl hbf hbt n3
    · rw [if_neg hcs, if_neg hcs]; exact h

theorem preKeys_same : (preKeys g).bbs = g.bbs ∧ (preKeys g).white = g.white := by
  unfold preKeys; split <;> exact ⟨rfl, rfl⟩

theorem preMove_white : (preMove g m).white = g.white := rfl

theorem postOcc_bbs : (postOcc g m).bbs = g.bbs := by rw [postOcc_eq]; rfl
theorem postClock_bbs : (postClock g m).bbs = g.bbs := by rw [postClock_eq]

theorem makePost_bbs : (makePost g m).bbs = (postSpecial (postClock (postOcc g m) m) m).bbs := by
  unfold makePost
  rw [postSide_eq, postEp_eq]; rfl

end stages

theorem makePre_rep {g : Game} {m : Move} {b : Board} (h : Rep g.bbs b none) (fits : MoveFits b g.white m) :
    Rep (makePre g m).bbs (preBoard b g.white m) none := by
  unfold preBoard
  have hpl := ownP_lt fits.piece
  obtain ⟨b0, w0⟩ := preKeys_same g
  have h1 := preMove_rep (preKeys g) m b (by rw [b0]; exact h) hpl fits.fromLt fits.toLt fits.src
  have h2 := preCapture_rep (preMove (preKeys g) m) m b (b.set m.fromSq none) g.white (by rw [preMove_white, w0]) fits rfl h1
  have hft := fits.to_ne_from
  by_cases hc : m.isCapture = true
  · rw [if_pos hc] at h2
    by_cases he : m.isEnpassant = true
    · rw [if_pos he] at h2 ⊢
      obtain ⟨v1, _, _, _⟩ := fits.vsq_facts he
      exact rep_merge _ _ _ _ h2 (by
        rw [Board.set_ne (fun h => v1 h.symm), Board.set_ne hft]; exact (fits.ep he).2.1)
    · rw [if_neg he] at h2 ⊢
      have h3 := rep_merge _ _ _ _ h2 (by simp)
      rw [Board.set_set] at h3
      exact h3
  · rw [if_neg hc] at h2
    have hcf : m.isCapture = false := by simpa using hc
    rw [if_neg (by simp [fits.ep_cap hcf])]
    exact rep_merge _ _ _ _ h2 (by rw [Board.set_ne hft]; exact fits.quiet hcf)

theorem makeForce_rep {g : Game} {m : Move} {b : Board} (h : Rep g.bbs b none) (fits : MoveFits b g.white m) : Rep (makeForce g m).bbs (applyB b g.white m) none := by
  unfold makeForce
  rw [makePost_bbs, applyB_eq fits]
  have h4 := makePre_rep h fits
  rw [← postOcc_bbs (makePre g m) m, ← postClock_bbs (postOcc (makePre g m) m) m] at h4
  refine postSpecial_rep _ m _ h4 (ownP_lt fits.piece) fits.toLt (preBoard_to _ _ _)
    (fun hpr => ⟨ownP_lt (fits.promo hpr).1, (fits.promo hpr).2⟩) (fun _ hcs => ?_)
  -- the rook's squares are away from both ends of the king's move
  obtain ⟨_, hcf, r, f, t, hhop, hbf, hbt, hff, hft, _, _⟩ := fits.castle hcs
  obtain ⟨n1, n2, _⟩ := rookHop_ne hhop
  have hne : m.isEnpassant = true → False := fun he => by rw [fits.ep_cap hcf] at he; cases he
  refine ⟨r, f, t, hhop, ?_, ?_⟩
  · rw [preBoard_other f n1 (fun h => hff h.symm) (fun he => absurd he hne)]; exact hbf
  · rw [preBoard_other t n2 (fun h => hft h.symm) (fun he => absurd he hne)]; exact hbt

theorem makeCore_rep (g g' : Game) (m : Move) (b : Board) (h : Rep g.bbs b none) (fits : MoveFits b g.white m)
    (hmk : makeCore g m = some g') : Rep g'.bbs (applyB b g.white m) none :=
  makeCore_some hmk ▸ makeForce_rep h fits

theorem MoveFits.moveOk {g : Game} {b : Board} {m : Move} (h : Rep g.bbs b none) (fits : MoveFits b g.white m) : MoveOk g m := by
  have hpl := ownP_lt fits.piece
  have bitOf : ∀ q t, q < 12 → t < 64 → getBit (g.bb q) t = decide (b t = some q) := fun q t hq ht => rep_bit g.bbs b h q t hq ht
  have mover := ownP_mover fits.piece
  refine ⟨h.1, hpl, fits.fromLt, fits.toLt, ?_, ?_, ?_, mover, ?_, ?_, ?_, ?_⟩
  · rw [bitOf _ _ hpl fits.fromLt, fits.src]; simp
  · rw [bitOf _ _ hpl fits.toLt]; simpa using fits.target_not _ fits.piece
  · intro he _
    obtain ⟨_, _, hlt, hge, hv, _, _⟩ := fits.ep he
    constructor
    · intro hw
      rw [hw] at hv; simp only [vsq, if_true] at hv
      refine ⟨fun e => absurd (e ▸ mover.1 hw) (by decide), hlt hw, ?_⟩
      rw [bitOf _ _ (by decide) (hlt hw), hv]; simp
    · intro hw
      rw [hw] at hv; simp only [vsq, Bool.false_eq_true, if_false] at hv
      refine ⟨fun e => absurd (e ▸ mover.2 hw) (by decide), hge hw, ?_⟩
      rw [bitOf _ _ (by decide) (by have := fits.toLt; omega), hv]; simp
  · intro hpr
    obtain ⟨hown, hne⟩ := fits.promo hpr
    refine ⟨ownP_lt hown, hne, ?_, ?_, ?_⟩
    · rw [bitOf _ _ (ownP_lt hown) fits.toLt]; simpa using fits.target_not _ hown
    · exact ownP_mover hown
    · cases he : m.isEnpassant
      · rfl
      · exact absurd (fits.ep he).2.2.2.2.2.1 hpr
  · intro _ hcs
    obtain ⟨_, _, r, f, t, hhop, hbf, hbt, _, _, _, hpr⟩ := fits.castle hcs
    obtain ⟨_, _, _, hr, hf, ht⟩ := rookHop_ne hhop
    have bf : getBit (g.bb r) f = true := by rw [bitOf _ _ hr hf, hbf]; simp
    have bt : getBit (g.bb r) t = false := by rw [bitOf _ _ hr ht, hbt]; simp
    rcases rookHop_cases hhop with ⟨a, rfl, rfl, rfl⟩ | ⟨a, rfl, rfl, rfl⟩ | ⟨a, rfl, rfl, rfl⟩ | ⟨a, rfl, rfl, rfl⟩
    · exact Or.inl ⟨a, hpr, bf, bt⟩
    · exact Or.inr (Or.inl ⟨a, hpr, bf, bt⟩)
    · exact Or.inr (Or.inr (Or.inl ⟨a, hpr, bf, bt⟩))
    · exact Or.inr (Or.inr (Or.inr ⟨a, hpr, bf, bt⟩))
  · intro hcs; exact (fits.castle hcs).2.1
  · intro hdp
    obtain ⟨_, _, _, _, hw, hb⟩ := fits.dpush hdp
    have := fits.fromLt
    constructor
    · intro h; have := (hw h).1; omega
    · intro h; have := (hb h).1; omega

end Jence
