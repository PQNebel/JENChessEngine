/-
  `make_search_move` in normal form. Every step that touches a piece set also XORs the matching piece key into the key:
  `Game.take` / `Game.put` are that pair. Each stage of `makeCore` is a few of them plus an update of the cached
  occupancy sets; what a stage does to any field is read off its equation.
-/
import Jence.Lemmas.BitAlgebra
import Jence.Model.MoveOk
import Jence.Lemmas.MovePack
namespace Jence
open Jence

def Game.take (g : Game) (p s : Nat) : Game := { g.setBB p (unsetBit (g.bb p) s) with key := g.key ^^^ pieceKey p s }
def Game.put (g : Game) (p s : Nat) : Game := { g.setBB p (setBit (g.bb p) s) with key := g.key ^^^ pieceKey p s }

def Game.withOcc (g : Game) (w b a : UInt64) : Game := { g with whiteOcc := w, blackOcc := b, allOcc := a }

def Game.occ (g : Game) : UInt64 × UInt64 × UInt64 := (g.whiteOcc, g.blackOcc, g.allOcc)

theorem Game.occ_eq {g : Game} {w b a : UInt64} (h : g.occ = (w, b, a)) : g.whiteOcc = w ∧ g.blackOcc = b ∧ g.allOcc = a := by
  simp only [Game.occ, Prod.mk.injEq] at h
  exact h

section withOcc
variable (g : Game) (w b a : UInt64)
theorem withOcc_occ : (g.withOcc w b a).occ = (w, b, a) := rfl
theorem withOcc_bb (q : Nat) : (g.withOcc w b a).bb q = g.bb q := rfl
theorem withOcc_white : (g.withOcc w b a).white = g.white := rfl
end withOcc

def Game.takeOpt (g : Game) : Option (Nat × Nat) → Game
  | some (p, s) => g.take p s
  | none => g

/-- castling: king target square ↦ (rook, rook from, rook to) -/
def rookHop (to : Nat) : Option (Nat × Nat × Nat) :=
  if to = 62 then some (WR, 63, 61) else if to = 58 then some (WR, 56, 59)
  else if to = 6 then some (BR, 7, 5) else if to = 2 then some (BR, 0, 3) else none

theorem rookHop_cases {to r f t : Nat} (h : rookHop to = some (r, f, t)) :
    (to = 62 ∧ r = WR ∧ f = 63 ∧ t = 61) ∨ (to = 58 ∧ r = WR ∧ f = 56 ∧ t = 59) ∨
    (to = 6 ∧ r = BR ∧ f = 7 ∧ t = 5) ∨ (to = 2 ∧ r = BR ∧ f = 0 ∧ t = 3) := by
  unfold rookHop at h
  by_cases h1 : to = 62
  · rw [if_pos h1] at h; injection h with h; injection h with a h; injection h with b c
    exact Or.inl ⟨h1, a.symm, b.symm, c.symm⟩
  by_cases h2 : to = 58
  · rw [if_neg h1, if_pos h2] at h; injection h with h; injection h with a h; injection h with b c
    exact Or.inr (Or.inl ⟨h2, a.symm, b.symm, c.symm⟩)
  by_cases h3 : to = 6
  · rw [if_neg h1, if_neg h2, if_pos h3] at h; injection h with h; injection h with a h; injection h with b c
    exact Or.inr (Or.inr (Or.inl ⟨h3, a.symm, b.symm, c.symm⟩))
  by_cases h4 : to = 2
  · rw [if_neg h1, if_neg h2, if_neg h3, if_pos h4] at h; injection h with h; injection h with a h; injection h with b c
    exact Or.inr (Or.inr (Or.inr ⟨h4, a.symm, b.symm, c.symm⟩))
  rw [if_neg h1, if_neg h2, if_neg h3, if_neg h4] at h; exact absurd h (by simp)

theorem rookHop_ne {to r f t : Nat} (h : rookHop to = some (r, f, t)) : f ≠ to ∧ t ≠ to ∧ t ≠ f ∧ r < 12 ∧ f < 64 ∧ t < 64 := by
  rcases rookHop_cases h with ⟨rfl, rfl, rfl, rfl⟩ | ⟨rfl, rfl, rfl, rfl⟩ | ⟨rfl, rfl, rfl, rfl⟩ | ⟨rfl, rfl, rfl, rfl⟩ <;> decide

theorem rookHop_rook {to r f t : Nat} (h : rookHop to = some (r, f, t)) : r = WR ∨ r = BR := by
  rcases rookHop_cases h with ⟨_, h, _⟩ | ⟨_, h, _⟩ | ⟨_, h, _⟩ | ⟨_, h, _⟩
  · exact Or.inl h
  · exact Or.inl h
  · exact Or.inr h
  · exact Or.inr h

/-- the square of the pawn an en-passant capture removes -/
def vsq (w : Bool) (to : Nat) : Nat := if w then to + 8 else to - 8

/-- `make_search_move` without its check test: what the new position would be -/
def makeForce (g : Game) (m : Move) : Game := makePost (makePre g m) m

theorem makeCore_eq (g : Game) (m : Move) :
    makeCore g m = if isInCheck (makePre g m) (makePre g m).white then none else some (makeForce g m) := rfl

theorem makeCore_some {g g' : Game} {m : Move} (h : makeCore g m = some g') : g' = makeForce g m := by
  rw [makeCore_eq] at h
  split at h
  · exact absurd h (by simp)
  · injection h with h; exact h.symm

theorem makeCore_check {g g' : Game} {m : Move} (h : makeCore g m = some g') :
    isInCheck (makePre g m) (makePre g m).white = false := by
  rw [makeCore_eq] at h
  split at h
  · exact absurd h (by simp)
  · rename_i hc; simpa using hc

/-- the five sets the capture scan goes through are the enemy's pieces but the king -/
theorem captureScan_range (w : Bool) (p : Nat) :
    (if w then BP else WP) ≤ p ∧ p < (if w then BP else WP) + 5 ↔ enemyP w p ∧ p ≠ (if w then BK else WK) := by
  have hBP : BP = 6 := rfl
  have hBK : BK = 11 := rfl
  have hWK : WK = 5 := rfl
  rw [enemyP_iff_lt]
  cases w
  · simp; omega
  · simp; omega

/-- what `preCapture` removes -/
def Victim (g : Game) (m : Move) (v : Option (Nat × Nat)) : Prop :=
  if m.isCapture then
    if m.isEnpassant then v = some (if g.white then BP else WP, vsq g.white m.toSq)
    else (∀ p s, v = some (p, s) → s = m.toSq ∧ getBit (g.bb p) s = true ∧
            (if g.white then BP else WP) ≤ p ∧ p < (if g.white then BP else WP) + 5) ∧
         (v = none → ∀ p, (if g.white then BP else WP) ≤ p → p < (if g.white then BP else WP) + 5 → getBit (g.bb p) m.toSq = false)
  else v = none

theorem Victim.some {g : Game} {m : Move} {p s : Nat} (h : Victim g m (some (p, s))) :
    m.isCapture = true ∧ enemyP g.white p ∧
    (if m.isEnpassant then p = (if g.white then BP else WP) ∧ s = vsq g.white m.toSq
     else s = m.toSq ∧ getBit (g.bb p) s = true) := by
  unfold Victim at h
  split at h
  · rename_i hc
    refine ⟨hc, ?_⟩
    split at h
    · rename_i he
      obtain ⟨rfl, rfl⟩ := h
      rw [if_pos he]
      exact ⟨enemyP_ite _ (by decide) (by decide), rfl, rfl⟩
    · rename_i he
      obtain ⟨rfl, b, c, d⟩ := h.1 p s rfl
      rw [if_neg he]
      exact ⟨((captureScan_range _ _).1 ⟨c, d⟩).1, rfl, b⟩
  · exact absurd h (by simp)

section stages
variable (g : Game) (m : Move)

theorem preKeys_eq :
    preKeys g = { g with key := (if g.ep != SQNONE then g.key ^^^ epKey g.ep else g.key) ^^^ castleKey g.castling } := by
  unfold preKeys; split <;> rfl

theorem preMove_eq : preMove g m =
    ((g.take m.piece m.fromSq).put m.piece m.toSq).withOcc g.whiteOcc g.blackOcc (setBit (unsetBit g.allOcc m.fromSq) m.toSq) := by
  rfl

theorem castleRook_eq (r f t : Nat) : castleRook g r f t =
    ((g.put r t).take r f).withOcc
      (if r = WR then unsetBit (setBit g.whiteOcc t) f else g.whiteOcc)
      (if r = WR then g.blackOcc else unsetBit (setBit g.blackOcc t) f)
      (unsetBit (setBit g.allOcc t) f) := by
  unfold castleRook Game.withOcc
  by_cases h : r = WR
  · subst h; rfl
  · simp only [beq_iff_eq, h, if_false]; rfl

theorem captureLoop_eq (start sq : Nat) : ∀ n k, ∃ v : Option Nat,
    captureLoop g start sq n k = ((match v with | some p => g.setBB p (unsetBit (g.bb p) sq) | none => g), v) ∧
    (∀ p, v = some p → getBit (g.bb p) sq = true ∧ start + k ≤ p ∧ p < start + k + n) ∧
    (v = none → ∀ p, start + k ≤ p → p < start + k + n → getBit (g.bb p) sq = false) := by
  intro n
  induction n with
  | zero => intro k; exact ⟨none, rfl, fun _ h => absurd h (by simp), fun _ p h1 h2 => by omega⟩
  | succ n ih =>
    intro k
    unfold captureLoop
    by_cases h : getBit (g.bb (start + k)) sq = true
    · exact ⟨some (start + k), by simp only [h, if_true], fun p hp => by injection hp with hp; subst hp; exact ⟨h, by omega, by omega⟩,
        fun h' => absurd h' (by simp)⟩
    · simp only [h, Bool.false_eq_true, if_false]
      obtain ⟨v, h1, h2, h3⟩ := ih (k + 1)
      refine ⟨v, h1, fun p hp => ?_, fun hv p hp1 hp2 => ?_⟩
      · obtain ⟨a, b, c⟩ := h2 p hp; exact ⟨a, by omega, by omega⟩
      · by_cases hpk : p = start + k
        · subst hpk; simpa using h
        · exact h3 hv p (by omega) (by omega)

/-- one piece at most is taken, and the occupancy sets do not depend on which -/
theorem preCapture_eq : ∃ v, Victim g m v ∧ preCapture g m =
    (g.takeOpt v).withOcc
      (if m.isCapture then (if g.white then g.whiteOcc else unsetBit g.whiteOcc (if m.isEnpassant then vsq g.white m.toSq else m.toSq)) else g.whiteOcc)
      (if m.isCapture then (if g.white then unsetBit g.blackOcc (if m.isEnpassant then vsq g.white m.toSq else m.toSq) else g.blackOcc) else g.blackOcc)
      (if m.isCapture then (if m.isEnpassant then unsetBit g.allOcc (vsq g.white m.toSq) else g.allOcc) else g.allOcc) := by
  unfold preCapture Victim Game.withOcc
  by_cases hc : m.isCapture = true
  · simp only [hc, if_true]
    by_cases he : m.isEnpassant = true
    · simp only [he, if_true]
      refine ⟨_, rfl, ?_⟩
      cases hw : g.white <;> rfl
    · have hef : m.isEnpassant = false := by simpa using he
      simp only [hef, Bool.false_eq_true, if_false]
      generalize hg0 : (if g.white = true then { g with blackOcc := unsetBit g.blackOcc m.toSq }
               else { g with whiteOcc := unsetBit g.whiteOcc m.toSq }) = g0
      have e0 : g0 = { g with whiteOcc := if g.white then g.whiteOcc else unsetBit g.whiteOcc m.toSq,
                              blackOcc := if g.white then unsetBit g.blackOcc m.toSq else g.blackOcc } := by
        rw [← hg0]; cases g.white <;> rfl
      obtain ⟨v, h1, h2, h3⟩ := captureLoop_eq g0 (if g.white = true then BP else WP) m.toSq 5 0
      have hbb : ∀ p, g0.bb p = g.bb p := fun p => by rw [e0]; rfl
      refine ⟨v.map fun p => (p, m.toSq), ⟨fun p s hv => ?_, fun hv p hp1 hp2 => ?_⟩, ?_⟩
      · cases v with
        | none => exact absurd hv (by simp)
        | some p' =>
          simp only [Option.map_some, Option.some.injEq, Prod.mk.injEq] at hv
          obtain ⟨rfl, rfl⟩ := hv
          obtain ⟨a, b, c⟩ := h2 p' rfl
          exact ⟨rfl, by rw [← hbb]; exact a, by omega, by omega⟩
      · rw [← hbb]; exact h3 (Option.map_eq_none_iff.mp hv) p (by omega) (by omega)
      · rw [h1]
        cases v with
        | none => simp only [Option.map_none, Game.takeOpt]; rw [e0]
        | some p => simp only [Option.map_some, Game.takeOpt]; rw [e0]; rfl
  · simp only [hc, Bool.false_eq_true, if_false]
    exact ⟨none, rfl, rfl⟩

theorem postSpecial_eq : postSpecial g m =
    if m.promotion ≠ PNONE then (g.put m.promotion m.toSq).take m.piece m.toSq
    else if m.isCastling then (match rookHop m.toSq with | some (r, f, t) => castleRook g r f t | none => g)
    else g := by
  -- `apply_ite` pushes the `match` through the `if` chain of `rookHop`, which leaves the `if` chain of `postSpecial`
  have hop : (match rookHop m.toSq with | some (r, f, t) => castleRook g r f t | none => g) =
      if m.toSq = 62 then castleRook g WR 63 61 else if m.toSq = 58 then castleRook g WR 56 59
      else if m.toSq = 6 then castleRook g BR 7 5 else if m.toSq = 2 then castleRook g BR 0 3 else g := by
    simp only [rookHop, apply_ite (fun o : Option (Nat × Nat × Nat) => match o with | some (r, f, t) => castleRook g r f t | none => g)]
  rw [hop]
  unfold postSpecial
  by_cases hpr : m.promotion ≠ PNONE
  · rw [if_pos hpr, if_pos (by simpa using hpr)]
    exact congrArg (fun k => { (g.setBB m.promotion (setBit (g.bb m.promotion) m.toSq)).setBB m.piece
      (unsetBit ((g.setBB m.promotion (setBit (g.bb m.promotion) m.toSq)).bb m.piece) m.toSq) with key := k })
      (xor_right_comm _ _ _)
  · rw [if_neg hpr, if_neg (by simpa using hpr)]
    simp only [beq_iff_eq]

theorem postOcc_eq : postOcc g m = g.withOcc
    (if g.white then setBit (unsetBit g.whiteOcc m.fromSq) m.toSq else g.whiteOcc)
    (if g.white then g.blackOcc else setBit (unsetBit g.blackOcc m.fromSq) m.toSq) g.allOcc := by
  unfold postOcc Game.withOcc
  cases g.white <;> rfl

theorem postClock_eq : postClock g m =
    { g with halfMoves := if m.piece == WP || m.piece == BP || m.isCapture then 0 else (g.halfMoves + 1) % 256 } := by
  unfold postClock
  split <;> rfl

theorem postEp_eq : postEp g m =
    { g with ep := if m.isDoublePush then (if g.white then m.toSq + 8 else m.toSq - 8) else SQNONE
             key := if m.isDoublePush then g.key ^^^ epKey (if g.white then m.toSq + 8 else m.toSq - 8) else g.key } := by
  unfold postEp
  cases m.isDoublePush <;> cases g.white <;> rfl

theorem postSide_eq : postSide g =
    { g with fullMoves := if g.white then g.fullMoves else (g.fullMoves + 1) % 65536, white := !g.white, key := g.key ^^^ SIDE_KEY } := by
  unfold postSide
  cases hw : g.white <;> simp only [hw, Bool.not_true, Bool.not_false, Bool.false_eq_true, if_true, if_false]

end stages

/-- the fields no piece step touches -/
def Game.meta (g : Game) : Bool × Nat × Nat × Nat × Nat := (g.white, g.ep, g.castling, g.halfMoves, g.fullMoves)

theorem Game.meta_eq {g : Game} {w : Bool} {e c h f : Nat} (hm : g.meta = (w, e, c, h, f)) :
    g.white = w ∧ g.ep = e ∧ g.castling = c ∧ g.halfMoves = h ∧ g.fullMoves = f := by
  simp only [Game.meta, Prod.mk.injEq] at hm
  exact hm

section bookkeeping
variable (g : Game) (m : Move)

@[simp] theorem takeOpt_meta (v : Option (Nat × Nat)) : (g.takeOpt v).meta = g.meta := by
  rcases v with _ | ⟨p, s⟩ <;> rfl

@[simp] theorem preKeys_meta : (preKeys g).meta = g.meta := by rw [preKeys_eq]; rfl
@[simp] theorem preMove_meta : (preMove g m).meta = g.meta := by rw [preMove_eq]; rfl
@[simp] theorem preCapture_meta : (preCapture g m).meta = g.meta := by
  obtain ⟨v, _, h⟩ := preCapture_eq g m
  rw [h]; exact takeOpt_meta g v
@[simp] theorem castleRook_meta (r f t : Nat) : (castleRook g r f t).meta = g.meta := by rw [castleRook_eq]; rfl
@[simp] theorem postSpecial_meta : (postSpecial g m).meta = g.meta := by
  rw [postSpecial_eq]
  split
  · rfl
  · split
    · cases rookHop m.toSq with
      | none => rfl
      | some x =>
        obtain ⟨r, f, t⟩ := x
        exact castleRook_meta g r f t
    · rfl

theorem makePre_meta : (makePre g m).meta = g.meta := by simp [makePre]

theorem makePost_meta : (makePost g m).meta =
    (!g.white, (if m.isDoublePush then (if g.white then m.toSq + 8 else m.toSq - 8) else SQNONE),
      g.castling &&& (Gen.CASTLING_RIGHTS.getD m.toSq 0 &&& Gen.CASTLING_RIGHTS.getD m.fromSq 0),
      (if m.piece == WP || m.piece == BP || m.isCapture then 0 else (g.halfMoves + 1) % 256),
      (if g.white then g.fullMoves else (g.fullMoves + 1) % 65536)) := by
  have h5 : (postSpecial (postClock (postOcc g m) m) m).meta = (g.white, g.ep, g.castling,
      (if m.piece == WP || m.piece == BP || m.isCapture then 0 else (g.halfMoves + 1) % 256), g.fullMoves) := by
    rw [postSpecial_meta, postClock_eq, postOcc_eq]; rfl
  unfold makePost
  generalize postSpecial (postClock (postOcc g m) m) m = g5 at h5
  obtain ⟨a, _, c, d, e⟩ := Game.meta_eq h5
  rw [postSide_eq, postEp_eq]
  show (!g5.white, (if m.isDoublePush then (if g5.white then m.toSq + 8 else m.toSq - 8) else SQNONE),
    g5.castling &&& (Gen.CASTLING_RIGHTS.getD m.toSq 0 &&& Gen.CASTLING_RIGHTS.getD m.fromSq 0), g5.halfMoves,
    (if g5.white then g5.fullMoves else (g5.fullMoves + 1) % 65536)) = _
  rw [a, c, d, e]

theorem makeForce_meta : (makeForce g m).meta =
    (!g.white, (if m.isDoublePush then (if g.white then m.toSq + 8 else m.toSq - 8) else SQNONE),
      g.castling &&& (Gen.CASTLING_RIGHTS.getD m.toSq 0 &&& Gen.CASTLING_RIGHTS.getD m.fromSq 0),
      (if m.piece == WP || m.piece == BP || m.isCapture then 0 else (g.halfMoves + 1) % 256),
      (if g.white then g.fullMoves else (g.fullMoves + 1) % 65536)) := by
  obtain ⟨a, _, c, d, e⟩ := Game.meta_eq (makePre_meta g m)
  unfold makeForce
  rw [makePost_meta, a, c, d, e]

theorem makePre_white : (makePre g m).white = g.white := (Game.meta_eq (makePre_meta g m)).1

theorem makeForce_white : (makeForce g m).white = !g.white := (Game.meta_eq (makeForce_meta g m)).1

end bookkeeping

theorem makeCore_meta {g g' : Game} {m : Move} (hmk : makeCore g m = some g') : g'.meta =
    (!g.white, (if m.isDoublePush then (if g.white then m.toSq + 8 else m.toSq - 8) else SQNONE),
      g.castling &&& (Gen.CASTLING_RIGHTS.getD m.toSq 0 &&& Gen.CASTLING_RIGHTS.getD m.fromSq 0),
      (if m.piece == WP || m.piece == BP || m.isCapture then 0 else (g.halfMoves + 1) % 256),
      (if g.white then g.fullMoves else (g.fullMoves + 1) % 65536)) :=
  makeCore_some hmk ▸ makeForce_meta g m

theorem makeCore_white {g g' : Game} {m : Move} (hmk : makeCore g m = some g') : g'.white = !g.white :=
  (Game.meta_eq (makeCore_meta hmk)).1

end Jence
