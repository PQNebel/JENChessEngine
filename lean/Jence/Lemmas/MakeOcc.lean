/-
  The three cached occupancy sets after `make_search_move`: each equals what the board after the move says
  (white pieces / black pieces / any piece), given that they did before.
  A set holds `f` of the board (`OccF f x b`). A write `b.set s v` shows in it as the bit set (`occF_set`, when `f v`), the
  bit cleared (`occF_unset`, when not), or not at all when `f` cannot tell `v` from what stood there (`setF_absorb`);
  `Board.set_comm` brings the writes of `applyB` into the order in which the engine updates the set. The engine updates a
  set only where `f` changes, so per kind of move each set is a few of these steps (`occ_castle_own` … `occ_plain_opp_quiet`).
-/
import Jence.Lemmas.MakeBoard
namespace Jence
open Jence

/-- what a square holds when it is in the set of white pieces -/
def whiteAt (v : Option Nat) : Bool := match v with | some q => decide (q < 6) | none => false
/-- what a square holds when it is in the set of black pieces -/
def blackAt (v : Option Nat) : Bool := match v with | some q => decide (6 ≤ q) | none => false

def OccF (f : Option Nat → Bool) (x : UInt64) (b : Board) : Prop := ∀ t, t < 64 → getBit x t = f (b t)

section writes
variable (f : Option Nat → Bool) (x : UInt64) (b : Board)

theorem occF_set (s : Nat) (v : Option Nat) (hs : s < 64)
    (h : OccF f x b) (hv : f v = true) : OccF f (setBit x s) (b.set s v) := by
  intro t ht
  by_cases hts : t = s
  · subst hts; rw [getBit_setBit_self x t hs, Board.set_same, hv]
  · rw [getBit_setBit_ne x s t hs ht hts, Board.set_ne hts, h t ht]

theorem occF_unset (s : Nat) (v : Option Nat) (hs : s < 64)
    (h : OccF f x b) (hv : f v = false) : OccF f (unsetBit x s) (b.set s v) := by
  intro t ht
  by_cases hts : t = s
  · subst hts; rw [getBit_unsetBit_self x t hs, Board.set_same, hv]
  · rw [getBit_unsetBit_ne x s t hs ht hts, Board.set_ne hts, h t ht]

theorem occF_congr (b' : Board) (h : OccF f x b)
    (hb : ∀ t, t < 64 → f (b t) = f (b' t)) : OccF f x b' := fun t ht => by rw [h t ht, hb t ht]

theorem setF_congr (b1 b2 : Board) (s : Nat) (v1 v2 : Option Nat)
    (h : ∀ t, t < 64 → f (b1 t) = f (b2 t)) (hv : f v1 = f v2) : ∀ t, t < 64 → f ((b1.set s v1) t) = f ((b2.set s v2) t) := by
  intro t ht; unfold Board.set; split
  · exact hv
  · exact h t ht

theorem setF_absorb (b1 b2 : Board) (s : Nat) (v : Option Nat)
    (h : ∀ t, t < 64 → f (b1 t) = f (b2 t)) (hv : f (b1 s) = f v) : ∀ t, t < 64 → f (b1 t) = f ((b2.set s v) t) := by
  intro t ht; unfold Board.set; split
  · rename_i h'; rw [h']; exact hv
  · exact h t ht

end writes

theorem preMove_occ (g : Game) (m : Move) : (preMove g m).whiteOcc = g.whiteOcc ∧ (preMove g m).blackOcc = g.blackOcc ∧
    (preMove g m).allOcc = setBit (unsetBit g.allOcc m.fromSq) m.toSq := ⟨rfl, rfl, rfl⟩

section stages
variable (g : Game) (m : Move)

theorem postOcc_occ : (postOcc g m).occ =
    ((if g.white then setBit (unsetBit g.whiteOcc m.fromSq) m.toSq else g.whiteOcc),
     (if g.white then g.blackOcc else setBit (unsetBit g.blackOcc m.fromSq) m.toSq), g.allOcc) := by
  rw [postOcc_eq, withOcc_occ]

theorem postClock_occ : (postClock g m).occ = g.occ := by
  rw [postClock_eq]; rfl

theorem castleRook_occ (r f t : Nat) : (castleRook g r f t).occ =
    ((if r = WR then unsetBit (setBit g.occ.1 t) f else g.occ.1),
     (if r = WR then g.occ.2.1 else unsetBit (setBit g.occ.2.1 t) f), unsetBit (setBit g.occ.2.2 t) f) := by
  rw [castleRook_eq, withOcc_occ]
  rfl

theorem postSpecial_occ (h : m.promotion ≠ PNONE ∨ m.isCastling = false) : (postSpecial g m).occ = g.occ := by
  rw [postSpecial_eq]
  split
  · rfl
  · rename_i hpn
    rcases h with h | h
    · exact absurd h hpn
    · rw [h]; rfl

/-- the tail of `make_search_move` (steps 4-6: en-passant square, castling rights, side) leaves the occupancy sets alone -/
theorem postTail_occ : (postSide (postRights (postEp g m) m)).occ = g.occ := by
  rw [postSide_eq, postEp_eq]; rfl

end stages

section kinds
variable {b : Board} {w : Bool} {m : Move} (f : Option Nat → Bool) (x : UInt64)

/-- serves the mover's set and the set of all pieces -/
theorem occ_castle_own (fits : MoveFits b w m) (hcs : m.isCastling = true) (r fr t : Nat) (hhop : rookHop m.toSq = some (r, fr, t))
    (hn : f none = false) (hp : f (some m.piece) = true) (hr : f (some r) = true) (h : OccF f x b) :
    OccF f (unsetBit (setBit (setBit (unsetBit x m.fromSq) m.toSq) t) fr) (applyB b w m) := by
  obtain ⟨_, _, n3, _, hfl, htl⟩ := rookHop_ne hhop
  rw [applyB_castle fits hcs r fr t hhop, Board.set_comm _ fr t none (some r) (fun h => n3 h.symm)]
  exact occF_unset f _ _ fr none hfl (occF_set f _ _ t (some r) htl (occF_set f _ _ m.toSq (some m.piece) fits.toLt
    (occF_unset f _ _ m.fromSq none fits.fromLt h hn) hp) hr) hn

theorem occ_castle_opp (fits : MoveFits b w m) (hcs : m.isCastling = true) (r fr t : Nat) (hhop : rookHop m.toSq = some (r, fr, t))
    (hn : f none = false) (hp : f (some m.piece) = false) (hr : f (some r) = false) (h : OccF f x b) :
    OccF f x (applyB b w m) := by
  obtain ⟨_, hc, _⟩ := fits.castle hcs
  obtain ⟨hbf, hbt, _, _⟩ := fits.rook hcs hhop
  rw [applyB_castle fits hcs r fr t hhop]
  apply occF_congr f x b _ h
  apply setF_absorb f b _ t (some r) _ (by rw [hbt, hn, hr])
  apply setF_absorb f b _ fr none _ (by rw [hbf, hr, hn])
  apply setF_absorb f b _ m.toSq (some m.piece) _ (by rw [fits.quiet hc, hn, hp])
  apply setF_absorb f b _ m.fromSq none _ (by rw [fits.src, hp, hn])
  intro t _; rfl

theorem occ_ep_own (fits : MoveFits b w m) (he : m.isEnpassant = true)
    (hn : f none = false) (hp : f (some m.piece) = true) (hv : f (some (if w then BP else WP)) = false) (h : OccF f x b) :
    OccF f (setBit (unsetBit x m.fromSq) m.toSq) (applyB b w m) := by
  obtain ⟨v1, v2, v3, _⟩ := fits.vsq_facts he
  have hb := (fits.ep he).2.2.2.2.1
  rw [applyB_ep fits he]
  apply occF_congr f _ _ _ (occF_set f _ _ m.toSq (some m.piece) fits.toLt (occF_unset f _ _ m.fromSq none fits.fromLt h hn) hp)
  apply setF_congr f _ _ m.toSq _ _ _ rfl
  apply setF_absorb f _ _ (vsq w m.toSq) none _ (by rw [Board.set_ne v2, hb, hv, hn])
  intro t _; rfl

theorem occ_ep_opp (fits : MoveFits b w m) (he : m.isEnpassant = true)
    (hn : f none = false) (hp : f (some m.piece) = false) (h : OccF f x b) :
    OccF f (unsetBit x (vsq w m.toSq)) (applyB b w m) := by
  obtain ⟨v1, v2, v3, _⟩ := fits.vsq_facts he
  have hto := (fits.ep he).2.1
  rw [applyB_ep fits he, Board.set_comm _ m.fromSq (vsq w m.toSq) none none (fun h => v2 h.symm)]
  apply occF_congr f _ _ _ (occF_unset f _ _ (vsq w m.toSq) none v3 h hn)
  apply setF_absorb f _ _ m.toSq (some m.piece) _ (by rw [Board.set_ne (fun h => v1 h.symm), hto, hn, hp])
  apply setF_absorb f _ _ m.fromSq none _ (by rw [Board.set_ne (fun h => v2 h.symm), fits.src, hp, hn])
  intro t _; rfl

theorem occ_ep_all (fits : MoveFits b w m) (he : m.isEnpassant = true) (h : OccF Option.isSome x b) :
    OccF Option.isSome (unsetBit (setBit (unsetBit x m.fromSq) m.toSq) (vsq w m.toSq)) (applyB b w m) := by
  obtain ⟨v1, v2, v3, _⟩ := fits.vsq_facts he
  rw [applyB_ep fits he, Board.set_comm _ (vsq w m.toSq) m.toSq none (some m.piece) v1]
  exact occF_unset _ _ _ _ none v3 (occF_set _ _ _ m.toSq (some m.piece) fits.toLt
    (occF_unset _ _ _ m.fromSq none fits.fromLt h rfl) rfl) rfl

/-- serves the mover's set and the set of all pieces -/
theorem occ_plain_own (fits : MoveFits b w m) (he : m.isEnpassant = false) (hcs : m.isCastling = false)
    (hn : f none = false) (hp : f (some m.piece) = true) (hpr : m.promotion ≠ PNONE → f (some m.promotion) = true) (h : OccF f x b) :
    OccF f (setBit (unsetBit x m.fromSq) m.toSq) (applyB b w m) := by
  rw [applyB_plain he hcs]
  apply occF_congr f _ _ _ (occF_set f _ _ m.toSq (some m.piece) fits.toLt (occF_unset f _ _ m.fromSq none fits.fromLt h hn) hp)
  apply setF_congr f _ _ m.toSq _ _ (fun t _ => rfl)
  split
  · rename_i h'; rw [hp, hpr h']
  · rfl

theorem occ_plain_opp_cap (fits : MoveFits b w m) (he : m.isEnpassant = false) (hcs : m.isCastling = false)
    (hn : f none = false) (hp : f (some m.piece) = false) (hpr : m.promotion ≠ PNONE → f (some m.promotion) = false) (h : OccF f x b) :
    OccF f (unsetBit x m.toSq) (applyB b w m) := by
  have hne := fits.to_ne_from
  rw [applyB_plain he hcs, Board.set_comm _ m.fromSq m.toSq _ _ (fun h => hne h.symm)]
  apply occF_congr f _ _ _ (occF_unset f _ _ m.toSq none fits.toLt h hn)
  apply setF_absorb f _ _ m.fromSq none _ (by rw [Board.set_ne (fun h => hne h.symm), fits.src, hp, hn])
  apply setF_congr f _ _ m.toSq _ _ (fun t _ => rfl)
  split
  · rename_i h'; rw [hn, hpr h']
  · rw [hn, hp]

theorem occ_plain_opp_quiet (fits : MoveFits b w m) (hc : m.isCapture = false) (hcs : m.isCastling = false)
    (hn : f none = false) (hp : f (some m.piece) = false) (hpr : m.promotion ≠ PNONE → f (some m.promotion) = false) (h : OccF f x b) :
    OccF f x (applyB b w m) := by
  rw [applyB_plain (fits.ep_cap hc) hcs]
  apply occF_congr f x b _ h
  apply setF_absorb f b _ m.toSq _ _ (by
    rw [fits.quiet hc, hn]
    split
    · rename_i h'; rw [hpr h']
    · rw [hp])
  apply setF_absorb f b _ m.fromSq none _ (by rw [fits.src, hp, hn])
  intro t _; rfl

/-- `xo`, `xe`, `xa`: the mover's set, the other side's set, the set of all pieces -/
theorem occ_move_castle {fo fe : Option Nat → Bool} {xo xe xa : UInt64} (fits : MoveFits b w m)
    (hno : fo none = false) (hne : fe none = false) (hown : ∀ q, ownP w q → fo (some q) = true ∧ fe (some q) = false)
    (hO : OccF fo xo b) (hE : OccF fe xe b) (hA : OccF Option.isSome xa b) (hcs : m.isCastling = true) (r fr t : Nat) (hhop : rookHop m.toSq = some (r, fr, t)) (hro : ownP w r) :
    OccF fo (unsetBit (setBit (setBit (unsetBit xo m.fromSq) m.toSq) t) fr) (applyB b w m) ∧ OccF fe xe (applyB b w m) ∧
    OccF Option.isSome (unsetBit (setBit (setBit (unsetBit xa m.fromSq) m.toSq) t) fr) (applyB b w m) :=
  ⟨occ_castle_own fo _ fits hcs r fr t hhop hno (hown _ fits.piece).1 (hown _ hro).1 hO,
    occ_castle_opp fe _ fits hcs r fr t hhop hne (hown _ fits.piece).2 (hown _ hro).2 hE,
    occ_castle_own Option.isSome _ fits hcs r fr t hhop rfl rfl rfl hA⟩

theorem occ_move_plain {fo fe : Option Nat → Bool} {xo xe xa : UInt64} (fits : MoveFits b w m)
    (hno : fo none = false) (hne : fe none = false) (hown : ∀ q, ownP w q → fo (some q) = true ∧ fe (some q) = false)
    (hO : OccF fo xo b) (hE : OccF fe xe b) (hA : OccF Option.isSome xa b) (hcs : m.isCastling = false) (hvic : fo (some (if w then BP else WP)) = false) :
    OccF fo (setBit (unsetBit xo m.fromSq) m.toSq) (applyB b w m) ∧
    OccF fe (if m.isCapture then unsetBit xe (if m.isEnpassant then vsq w m.toSq else m.toSq) else xe) (applyB b w m) ∧
    OccF Option.isSome (if m.isCapture then (if m.isEnpassant then unsetBit (setBit (unsetBit xa m.fromSq) m.toSq) (vsq w m.toSq)
      else setBit (unsetBit xa m.fromSq) m.toSq) else setBit (unsetBit xa m.fromSq) m.toSq) (applyB b w m) := by
  have hp := hown _ fits.piece
  have hpr : m.promotion ≠ PNONE → fo (some m.promotion) = true ∧ fe (some m.promotion) = false := fun h => hown _ (fits.promo h).1
  by_cases he : m.isEnpassant = true
  · simp only [(fits.ep he).1, he, if_true]
    exact ⟨occ_ep_own fo _ fits he hno hp.1 hvic hO, occ_ep_opp fe _ fits he hne hp.2 hE, occ_ep_all _ fits he hA⟩
  · have hef : m.isEnpassant = false := by simpa using he
    simp only [hef, Bool.false_eq_true, if_false]
    have o := occ_plain_own fo xo fits hef hcs hno hp.1 (fun h => (hpr h).1) hO
    have a := occ_plain_own Option.isSome xa fits hef hcs rfl rfl (fun _ => rfl) hA
    by_cases hc : m.isCapture = true
    · simp only [hc, if_true]
      exact ⟨o, occ_plain_opp_cap fe _ fits hef hcs hne hp.2 (fun h => (hpr h).2) hE, a⟩
    · have hcq : m.isCapture = false := by simpa using hc
      simp only [hcq, Bool.false_eq_true, if_false]
      exact ⟨o, occ_plain_opp_quiet fe _ fits hcq hcs hne hp.2 (fun h => (hpr h).2) hE, a⟩

end kinds

theorem whiteAt_of_own (q : Nat) (h : ownP true q) : whiteAt (some q) = true ∧ blackAt (some q) = false := by
  have := ((ownP_iff_lt _ _).1 h).2.2 rfl
  simp [whiteAt, blackAt, this]

theorem blackAt_of_own (q : Nat) (h : ownP false q) : blackAt (some q) = true ∧ whiteAt (some q) = false := by
  have : ¬ q < 6 := fun hq => absurd (((ownP_iff_lt _ _).1 h).2.1 hq) (by simp)
  simp [whiteAt, blackAt, Nat.le_of_not_lt this, this]

section fields
variable (g : Game) (m : Move)

theorem makePre_occ :
    (makePre g m).whiteOcc = (if m.isCapture then (if g.white then g.whiteOcc else unsetBit g.whiteOcc (if m.isEnpassant then vsq g.white m.toSq else m.toSq)) else g.whiteOcc) ∧
    (makePre g m).blackOcc = (if m.isCapture then (if g.white then unsetBit g.blackOcc (if m.isEnpassant then vsq g.white m.toSq else m.toSq) else g.blackOcc) else g.blackOcc) ∧
    (makePre g m).allOcc = (if m.isCapture then (if m.isEnpassant then unsetBit (setBit (unsetBit g.allOcc m.fromSq) m.toSq) (vsq g.white m.toSq)
        else setBit (unsetBit g.allOcc m.fromSq) m.toSq) else setBit (unsetBit g.allOcc m.fromSq) m.toSq) := by
  unfold makePre
  obtain ⟨v, _, e⟩ := preCapture_eq (preMove (preKeys g) m) m
  have hw : (preMove (preKeys g) m).white = g.white := by rw [preKeys_eq]; rfl
  have ho : (preMove (preKeys g) m).occ = (g.whiteOcc, g.blackOcc, setBit (unsetBit g.allOcc m.fromSq) m.toSq) := by
    rw [preMove_eq, withOcc_occ, preKeys_eq]
  obtain ⟨o1, o2, o3⟩ := Game.occ_eq ho
  rw [e, hw, o1, o2, o3]
  exact ⟨rfl, rfl, rfl⟩

theorem makeForce_occ_plain (h : m.promotion ≠ PNONE ∨ m.isCastling = false) :
    (makeForce g m).whiteOcc = (if g.white then setBit (unsetBit (makePre g m).whiteOcc m.fromSq) m.toSq else (makePre g m).whiteOcc) ∧
    (makeForce g m).blackOcc = (if g.white then (makePre g m).blackOcc else setBit (unsetBit (makePre g m).blackOcc m.fromSq) m.toSq) ∧
    (makeForce g m).allOcc = (makePre g m).allOcc := by
  apply Game.occ_eq
  unfold makeForce makePost
  rw [postTail_occ, postSpecial_occ _ _ h, postClock_occ, postOcc_occ, makePre_white]

/-- castling with the mover's own rook (`hr`; the engine tells the colour by the rook): the mover's set follows king and rook -/
theorem makeForce_occ_castle (hpn : m.promotion = PNONE) (hcs : m.isCastling = true) (r f t : Nat)
    (hhop : rookHop m.toSq = some (r, f, t)) (hr : r = if g.white then WR else BR) :
    (makeForce g m).whiteOcc = (if g.white then unsetBit (setBit (setBit (unsetBit (makePre g m).whiteOcc m.fromSq) m.toSq) t) f
        else (makePre g m).whiteOcc) ∧
    (makeForce g m).blackOcc = (if g.white then (makePre g m).blackOcc
        else unsetBit (setBit (setBit (unsetBit (makePre g m).blackOcc m.fromSq) m.toSq) t) f) ∧
    (makeForce g m).allOcc = unsetBit (setBit (makePre g m).allOcc t) f := by
  apply Game.occ_eq
  unfold makeForce makePost
  rw [postTail_occ, postSpecial_eq, if_neg (by simp [hpn]), if_pos hcs, hhop, castleRook_occ, postClock_occ, postOcc_occ, makePre_white, hr]
  cases g.white
  · simp only [Bool.false_eq_true, if_false, if_neg (show BR ≠ WR by decide)]
  · simp only [if_true]

end fields

theorem makeForce_occ {g : Game} {m : Move} {b : Board}
    (hW : OccF whiteAt g.whiteOcc b) (hB : OccF blackAt g.blackOcc b) (hA : OccF Option.isSome g.allOcc b)
    (fits : MoveFits b g.white m) :
    OccF whiteAt (makeForce g m).whiteOcc (applyB b g.white m) ∧ OccF blackAt (makeForce g m).blackOcc (applyB b g.white m) ∧
    OccF Option.isSome (makeForce g m).allOcc (applyB b g.white m) := by
  obtain ⟨p1, p2, p3⟩ := makePre_occ g m
  by_cases hcs : m.isCastling = true
  · obtain ⟨hpn, hc, r, f, t, hhop, _⟩ := fits.castle hcs
    obtain ⟨_, _, hro, hr⟩ := fits.rook hcs hhop
    obtain ⟨q1, q2, q3⟩ := makeForce_occ_castle g m hpn hcs r f t hhop hr
    rw [q1, q2, q3, p1, p2, p3]
    simp only [hc, Bool.false_eq_true, if_false]
    cases hw : g.white
    · rw [hw] at fits hro
      simp only [Bool.false_eq_true, if_false]
      obtain ⟨o, e, a⟩ := occ_move_castle fits rfl rfl blackAt_of_own hB hW hA hcs r f t hhop hro
      exact ⟨e, o, a⟩
    · rw [hw] at fits hro
      simp only [if_true]
      exact occ_move_castle fits rfl rfl whiteAt_of_own hW hB hA hcs r f t hhop hro
  · have hcf : m.isCastling = false := by simpa using hcs
    obtain ⟨q1, q2, q3⟩ := makeForce_occ_plain g m (Or.inr hcf)
    rw [q1, q2, q3, p1, p2, p3]
    cases hw : g.white
    · rw [hw] at fits
      simp only [Bool.false_eq_true, if_false, ite_self]
      obtain ⟨o, e, a⟩ := occ_move_plain fits rfl rfl blackAt_of_own hB hW hA hcf rfl
      exact ⟨e, o, a⟩
    · rw [hw] at fits
      simp only [if_true, ite_self]
      exact occ_move_plain fits rfl rfl whiteAt_of_own hW hB hA hcf rfl

theorem makeCore_occ (g g' : Game) (m : Move) (b : Board)
    (hW : OccF whiteAt g.whiteOcc b) (hB : OccF blackAt g.blackOcc b) (hA : OccF Option.isSome g.allOcc b)
    (fits : MoveFits b g.white m) (hmk : makeCore g m = some g') :
    OccF whiteAt g'.whiteOcc (applyB b g.white m) ∧ OccF blackAt g'.blackOcc (applyB b g.white m) ∧
    OccF Option.isSome g'.allOcc (applyB b g.white m) :=
  makeCore_some hmk ▸ makeForce_occ hW hB hA fits

end Jence
