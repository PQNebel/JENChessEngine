/-
  The packed move word (`Move.mk'`, `src/cmove.rs`): the accessors give back what was packed, and a word below 2^24 is
  determined by its eight fields. Then the colour of a piece index (`ownP`, `enemyP`), which is what the `piece` field of a
  move says about the mover.
-/
import Jence.Model.Types
namespace Jence
open Jence

theorem Move.toSq_lt (m : Move) : m.toSq < 64 := by unfold Move.toSq; omega

/-- every accessor of the packed move is this, applied along the layout (6, 6, 4, 4 bits, then the four flags) -/
theorem radix_low (a k r : Nat) (ha : a < k) : (a + k * r) % k = a ∧ (a + k * r) / k = r :=
  ⟨by rw [Nat.add_mul_mod_self_left, Nat.mod_eq_of_lt ha],
   by rw [Nat.add_mul_div_left _ _ (by omega), Nat.div_eq_of_lt ha, Nat.zero_add]⟩

private def b2n (b : Bool) : Nat := if b then 1 else 0
private theorem flag_eq (K : Nat) (b : Bool) : (if b then K else 0) = K * b2n b := by cases b <;> simp [b2n]
private theorem b2n_lt (b : Bool) : b2n b < 2 := by cases b <;> decide
private theorem b2n_beq (b : Bool) : (b2n b == 1) = b := by cases b <;> rfl

private theorem mk_data (f t p pr : Nat) (cap dbl ep cas : Bool) :
    (Move.mk' f t p pr cap dbl ep cas).data =
      f + t * 64 + p * 4096 + pr * 65536 + 0x100000 * (b2n cap + 2 * b2n dbl + 4 * b2n ep + 8 * b2n cas) := by
  simp only [Move.mk', flag_eq]; omega

/-- the divisors of the accessors as products along the layout -/
private theorem layout : (4096 : Nat) = 64 * 64 ∧ (65536 : Nat) = 64 * 64 * 16 ∧ (0x100000 : Nat) = 64 * 64 * 16 * 16 ∧
    (0x200000 : Nat) = 64 * 64 * 16 * 16 * 2 ∧ (0x400000 : Nat) = 64 * 64 * 16 * 16 * 2 * 2 ∧
    (0x800000 : Nat) = 64 * 64 * 16 * 16 * 2 * 2 * 2 := ⟨rfl, rfl, rfl, rfl, rfl, rfl⟩

/-- the number fields need only stay below the flag bits: this covers a target square that is a wrapped `u8`, as the
    generator can compute for a pawn on an impossible row -/
theorem mk_flags (f t p pr : Nat) (cap dbl ep cas : Bool) (h : f + t * 64 + p * 4096 + pr * 65536 < 0x100000) :
    (Move.mk' f t p pr cap dbl ep cas).isCapture = cap ∧ (Move.mk' f t p pr cap dbl ep cas).isDoublePush = dbl ∧
    (Move.mk' f t p pr cap dbl ep cas).isEnpassant = ep ∧ (Move.mk' f t p pr cap dbl ep cas).isCastling = cas := by
  simp only [Move.isCapture, Move.isDoublePush, Move.isEnpassant, Move.isCastling, mk_data]
  rw [show 0x200000 = 0x100000 * 2 from rfl, show 0x400000 = 0x100000 * 2 * 2 from rfl, show 0x800000 = 0x100000 * 2 * 2 * 2 from rfl]
  simp only [← Nat.div_div_eq_div_mul, (radix_low _ 0x100000 _ h).2]
  -- the four flags in Horner form, each read off in turn
  rw [show b2n cap + 2 * b2n dbl + 4 * b2n ep + 8 * b2n cas = b2n cap + 2 * (b2n dbl + 2 * (b2n ep + 2 * (b2n cas + 2 * 0))) by omega]
  simp only [radix_low _ 2 _ (b2n_lt cap), radix_low _ 2 _ (b2n_lt dbl), radix_low _ 2 _ (b2n_lt ep), radix_low _ 2 _ (b2n_lt cas),
    b2n_beq, and_self]

theorem mk_data_lt (f t p pr : Nat) (cap dbl ep cas : Bool) (h : f + t * 64 + p * 4096 + pr * 65536 < 0x100000) :
    (Move.mk' f t p pr cap dbl ep cas).data < 16777216 := by
  have h1 := b2n_lt cap; have h2 := b2n_lt dbl; have h3 := b2n_lt ep; have h4 := b2n_lt cas
  rw [mk_data]; omega

structure Move.Fields (m : Move) (f t p pr : Nat) (cap dbl ep cas : Bool) : Prop where
  fromSq : m.fromSq = f
  toSq : m.toSq = t
  piece : m.piece = p
  promotion : m.promotion = pr
  isCapture : m.isCapture = cap
  isDoublePush : m.isDoublePush = dbl
  isEnpassant : m.isEnpassant = ep
  isCastling : m.isCastling = cas

theorem mk_fields (f t p pr : Nat) (cap dbl ep cas : Bool) (hf : f < 64) (ht : t < 64) (hp : p < 16) (hpr : pr < 16) :
    (Move.mk' f t p pr cap dbl ep cas).Fields f t p pr cap dbl ep cas := by
  have hw := mk_data f t p pr cap dbl ep cas
  generalize b2n cap + 2 * b2n dbl + 4 * b2n ep + 8 * b2n cas = F at hw
  rw [show f + t * 64 + p * 4096 + pr * 65536 + 0x100000 * F = f + 64 * (t + 64 * (p + 16 * (pr + 16 * F))) by omega] at hw
  obtain ⟨c1, c2, c3, c4⟩ := mk_flags f t p pr cap dbl ep cas (by omega)
  refine ⟨?_, ?_, ?_, ?_, c1, c2, c3, c4⟩ <;>
    simp only [Move.fromSq, Move.toSq, Move.piece, Move.promotion, hw, layout.1, layout.2.1, ← Nat.div_div_eq_div_mul,
      radix_low f 64 _ hf, radix_low t 64 _ ht, radix_low p 16 _ hp, radix_low pr 16 _ hpr]

theorem mod2_of_beq {x y : Nat} (h : (x % 2 == 1) = (y % 2 == 1)) : x % 2 = y % 2 := by
  rcases Nat.mod_two_eq_zero_or_one x with hx | hx <;> rcases Nat.mod_two_eq_zero_or_one y with hy | hy <;>
    rw [hx, hy] at h ⊢ <;> exact absurd h (by decide)

theorem move_eq_of_fields (m1 m2 : Move) (h1 : m1.data < 16777216) (h2 : m2.data < 16777216)
    (e1 : m1.fromSq = m2.fromSq) (e2 : m1.toSq = m2.toSq) (e3 : m1.piece = m2.piece) (e4 : m1.promotion = m2.promotion)
    (e5 : m1.isCapture = m2.isCapture) (e6 : m1.isDoublePush = m2.isDoublePush) (e7 : m1.isEnpassant = m2.isEnpassant)
    (e8 : m1.isCastling = m2.isCastling) : m1 = m2 := by
  cases m1 with | mk d1 => cases m2 with | mk d2 =>
  simp only [Move.fromSq, Move.toSq, Move.piece, Move.promotion, Move.isCapture, Move.isDoublePush, Move.isEnpassant, Move.isCastling] at *
  congr 1
  obtain ⟨l1, l2, l3, l4, l5, l6⟩ := layout
  simp only [l1, l2, l3, l4, l5, l6, ← Nat.div_div_eq_div_mul] at e3 e4 e5 e6 e7 e8
  -- digit by digit; above bit 24 both words are 0
  refine Nat.ext_div_mod (Nat.ext_div_mod (Nat.ext_div_mod (Nat.ext_div_mod (Nat.ext_div_mod (Nat.ext_div_mod
    (Nat.ext_div_mod (Nat.ext_div_mod ?_ (mod2_of_beq e8)) (mod2_of_beq e7)) (mod2_of_beq e6)) (mod2_of_beq e5)) e4) e3) e2) e1
  simp only [Nat.div_div_eq_div_mul, Nat.reduceMul]
  rw [Nat.div_eq_of_lt h1, Nat.div_eq_of_lt h2]

def ownP (w : Bool) (q : Nat) : Prop := if w then q < 6 else 6 ≤ q ∧ q < 12
def enemyP (w : Bool) (q : Nat) : Prop := if w then 6 ≤ q ∧ q < 12 else q < 6

theorem ownP_iff_lt (w : Bool) (q : Nat) : ownP w q ↔ q < 12 ∧ (q < 6 ↔ w = true) := by
  unfold ownP; cases w <;> simp <;> omega

theorem enemyP_iff_lt (w : Bool) (q : Nat) : enemyP w q ↔ q < 12 ∧ (q < 6 ↔ w = false) := by
  unfold enemyP; cases w <;> simp <;> omega

def sideOff (w : Bool) : Nat := if w then 0 else 6

theorem ownP_iff (w : Bool) (X : Nat) : ownP w X ↔ ∃ k, k < 6 ∧ X = k + sideOff w := by
  rw [ownP_iff_lt]; unfold sideOff
  cases w <;> simp only [Bool.false_eq_true, if_false, if_true, iff_false, iff_true]
  · exact ⟨fun h => ⟨X - 6, by omega, by omega⟩, fun ⟨k, h1, h2⟩ => by omega⟩
  · exact ⟨fun h => ⟨X, by omega, rfl⟩, fun ⟨k, h1, h2⟩ => by omega⟩

theorem ownP_lt {w : Bool} {q : Nat} (h : ownP w q) : q < 12 := ((ownP_iff_lt w q).1 h).1

theorem ownP_mover {w : Bool} {q : Nat} (h : ownP w q) : (w = true → q < 6) ∧ (w = false → 6 ≤ q) := by
  rw [ownP_iff_lt] at h
  exact ⟨h.2.2, fun hw => Nat.le_of_not_lt fun hq => by rw [h.2.1 hq] at hw; cases hw⟩

theorem enemyP_iff_other (w : Bool) (q : Nat) : enemyP w q ↔ ownP (!w) q := by
  cases w <;> exact Iff.rfl

theorem own_not_enemy {w : Bool} {q : Nat} (h1 : ownP w q) (h2 : enemyP w q) : False := by
  rw [ownP_iff_lt] at h1; rw [enemyP_iff_lt] at h2
  cases w <;> simp at h1 h2 <;> omega

/-- `if w then WR else BR` and the like -/
theorem ownP_ite (w : Bool) {A B : Nat} (hA : A < 6) (hB : 6 ≤ B ∧ B < 12) : ownP w (if w then A else B) := by
  rw [ownP_iff_lt]; cases w <;> simp <;> omega

theorem enemyP_ite (w : Bool) {A B : Nat} (hA : 6 ≤ A ∧ A < 12) (hB : B < 6) : enemyP w (if w then A else B) := by
  rw [enemyP_iff_lt]; cases w <;> simp <;> omega

theorem ownP_eq_ite {w : Bool} {X : Nat} (h : ownP w X) {A : Nat} (hA : A < 6) (hX : X = A ∨ X = A + 6) :
    X = if w then A else A + 6 := by
  rw [ownP_iff_lt] at h; cases w <;> simp at h ⊢ <;> omega

end Jence
