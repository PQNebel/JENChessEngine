/-
  T19.2: at nominal depths 1 and 2 (no null move, no late-move reduction can apply) and with the transposition table
  bypassed, `negamax` returns a sound alpha-beta answer for the plain minimax value `nVal`: one ply of extension per
  position in check, quiescence at the horizon, static evaluation at the ply cap, mate by distance, stalemate 0, and 0
  for a position of the game history. T19.3: the iterations of the deepening loop (`idTrace`) of depth at most 2 are
  such answers at the root, and the reported score is that of the last one.
-/
import Jence.Lemmas.QValue
import Jence.Lemmas.Frame
namespace Jence
open Jence

/-- the best child value (`max` of `−V child` over the moves that can be made), if there is a child -/
def maxChild (R : Rules) (V : Game → Int) (g : Game) : List Move → Option Int
  | [] => none
  | m :: ms =>
    match R.make g m with
    | none => maxChild R V g ms
    | some c => some (match maxChild R V g ms with | none => -(V c) | some v => max (-(V c)) v)

/-- how many of the moves can be made -/
def madeCount (R : Rules) (g : Game) : List Move → Nat
  | [] => 0
  | m :: ms => (if (R.make g m).isSome then 1 else 0) + madeCount R g ms

theorem madeCount_cons_none (R : Rules) {g : Game} {m : Move} {ms : List Move} (h : R.make g m = none) :
    madeCount R g (m :: ms) = madeCount R g ms := by simp [madeCount, h]

theorem madeCount_cons_some (R : Rules) {g c : Game} {m : Move} {ms : List Move} (h : R.make g m = some c) :
    madeCount R g (m :: ms) = 1 + madeCount R g ms := by simp [madeCount, h]

section children
variable (R : Rules) (V : Game → Int) (g : Game) (ms : List Move)

theorem maxChild_eq : maxChild R V g ms = (childVals R V g ms).max? := by
  induction ms with
  | nil => rfl
  | cons m ms ih =>
    rw [childVals_cons, maxChild]
    cases R.make g m with
    | none => exact ih
    | some c =>
      rw [List.max?_cons, ih]
      cases (childVals R V g ms).max? <;> rfl

theorem bestOf_maxChild (init : Int) :
    bestOf R V g ms init = (match maxChild R V g ms with | none => init | some M => max init M) := by
  rw [bestOf_eq, maxChild_eq, List.foldl_max]
  cases (childVals R V g ms).max? with
  | none => exact Int.max_self _
  | some M => rfl

theorem childVals_length : (childVals R V g ms).length = madeCount R g ms := by
  induction ms with
  | nil => rfl
  | cons m ms ih =>
    rw [childVals_cons, madeCount, ← ih]
    cases R.make g m with
    | none => exact (Nat.zero_add _).symm
    | some c => exact (Nat.add_comm 1 _).symm

theorem maxChild_none_iff_madeCount : maxChild R V g ms = none ↔ madeCount R g ms = 0 := by
  rw [maxChild_eq, ← childVals_length R V, List.max?_eq_none_iff, List.length_eq_zero_iff]

theorem maxChild_none_iff_make : maxChild R V g ms = none ↔ ∀ m ∈ ms, R.make g m = none := by
  rw [maxChild_eq, List.max?_eq_none_iff, List.eq_nil_iff_forall_not_mem]
  constructor
  · intro h m hm
    cases hc : R.make g m with
    | none => rfl
    | some c => exact absurd (mem_childVals.2 ⟨m, hm, c, hc, rfl⟩) (h _)
  · intro h v hv
    obtain ⟨m, hm, c, hc, _⟩ := mem_childVals.1 hv
    rw [h m hm] at hc
    cases hc

end children

theorem maxChild_perm (R : Rules) (V : Game → Int) (g : Game) (l₁ l₂ : List Move) (h : l₁.Perm l₂) :
    maxChild R V g l₁ = maxChild R V g l₂ := by
  rw [maxChild_eq, maxChild_eq]
  have hp := childVals_perm R V g _ _ h
  cases h1 : (childVals R V g l₁).max? with
  | none =>
    rw [List.max?_eq_none_iff] at h1
    rw [h1] at hp
    rw [hp.symm.eq_nil]
    rfl
  | some M =>
    rw [List.max?_eq_some_iff] at h1
    exact (List.max?_eq_some_iff.2 ⟨hp.mem_iff.1 h1.1, fun b hb => h1.2 b (hp.mem_iff.2 hb)⟩).symm

theorem maxChild_some (R : Rules) (V : Game → Int) (g : Game) (ms : List Move) (M : Int) (h : maxChild R V g ms = some M) :
    (∃ m ∈ ms, ∃ c, R.make g m = some c ∧ -(V c) = M) ∧ (∀ m ∈ ms, ∀ c, R.make g m = some c → -(V c) ≤ M) := by
  rw [maxChild_eq, List.max?_eq_some_iff] at h
  exact ⟨mem_childVals.1 h.1, fun m hm c hc => h.2 _ (mem_childVals.2 ⟨m, hm, c, hc, rfl⟩)⟩

/-- the plain minimax value the main search computes at shallow depth (fuel 0 is not reached where `negamax_value` applies,
    `ply + fuel ≥ MAX_PLY`: the value there is arbitrary) -/
def nVal (R : Rules) (H : List UInt64) : Nat → Game → Nat → Nat → Int
  | 0, _, _, _ => 0
  | fuel + 1, g, depth, ply =>
    if ply > 0 && H.contains g.key then 0
    else if ply ≥ Gen.MAX_PLY - 1 then R.evaluate g
    else if depth == 0 || g.halfMoves == 100 then qVal R qFuel g ply
    else
      let nDepth := if R.inCheck g then depth + 1 else depth
      match maxChild R (fun c => nVal R H fuel c (nDepth - 1) (ply + 1)) g (R.generate g true) with
      | none => if R.inCheck g then -Gen.MATE_VALUE + ply else 0
      | some M => M

theorem nVal_interior (R : Rules) (H : List UInt64) (fuel : Nat) (g : Game) (depth ply : Nat)
    (hrep : (decide (ply > 0) && H.contains g.key) = false) (hcap : ¬ ply ≥ Gen.MAX_PLY - 1)
    (hq : (depth == 0 || g.halfMoves == 100) = false) :
    nVal R H (fuel + 1) g depth ply =
      match maxChild R (fun c => nVal R H fuel c ((if R.inCheck g then depth + 1 else depth) - 1) (ply + 1)) g (R.generate g true) with
      | none => if R.inCheck g then -Gen.MATE_VALUE + ply else 0
      | some M => M := by
  rw [nVal, if_neg (by rw [hrep]; simp), if_neg hcap, if_neg (by rw [hq]; simp)]

theorem nVal_cases (R : Rules) (H : List UInt64) (fuel : Nat) (g : Game) (depth ply : Nat) :
    nVal R H (fuel + 1) g depth ply = 0 ∨ nVal R H (fuel + 1) g depth ply = R.evaluate g ∨
    nVal R H (fuel + 1) g depth ply = qVal R qFuel g ply ∨
    (¬ ply ≥ Gen.MAX_PLY - 1 ∧ nVal R H (fuel + 1) g depth ply =
      match maxChild R (fun c => nVal R H fuel c ((if R.inCheck g then depth + 1 else depth) - 1) (ply + 1)) g (R.generate g true) with
      | none => if R.inCheck g then -Gen.MATE_VALUE + ply else 0
      | some M => M) := by
  by_cases hrep : (decide (ply > 0) && H.contains g.key) = true
  · exact Or.inl (by rw [nVal, if_pos hrep])
  by_cases hcap : ply ≥ Gen.MAX_PLY - 1
  · exact Or.inr (Or.inl (by rw [nVal, if_neg hrep, if_pos hcap]))
  by_cases hq : (depth == 0 || g.halfMoves == 100) = true
  · exact Or.inr (Or.inr (Or.inl (by rw [nVal, if_neg hrep, if_neg hcap, if_pos hq])))
  · exact Or.inr (Or.inr (Or.inr ⟨hcap, nVal_interior R H fuel g depth ply (by simpa using hrep) hcap (by simpa using hq)⟩))

/-- nothing went wrong on the way: the history array did not overflow and no stop was seen -/
def Clean (e : Env) : Prop := e.rep.overflow = false ∧ e.stopping = false

theorem Clean.back {a b : Env} (hb : Clean b) (h : Frame a b) : Clean a := by
  refine ⟨h.no_overflow hb.1, ?_⟩
  cases hs : a.stopping
  · rfl
  · have h1 := (h.2 hb.1).stopMono hs; have h2 := hb.2; rw [h1] at h2; exact absurd h2 (by simp)

/-- what the recursive call is known to do: a sound answer for the child's value, when nothing went wrong (`p`: the ply of
    the node whose children it searches) -/
def RecVal (rec : Game → Nat → Int → Int → Env → Int × Env) (V : Game → Nat → Int) (H : List UInt64) (p : Nat) : Prop :=
  ∀ c d a b e, d ≤ 2 → a < b → e.ply = p + 1 → e.rep.pre = H → Clean (rec c d a b e).2 → Sound (rec c d a b e).1 (V c d) a b

theorem searchChild_value {rec : Game → Nat → Int → Int → Env → Int × Env} (hrec : RecFrame rec) (V : Game → Nat → Int)
    (H : List UInt64) (p : Nat) (hval : RecVal rec V H p)
    (c : Game) (m : Move) (searched depth nDepth : Nat) (inCheck : Bool) (ta beta : Int) (e : Env)
    (hd : depth < Gen.REDUCTION_LIMIT) (hnd : nDepth - 1 ≤ 2) (hab : ta < beta) (hp : e.ply = p + 1) (hH : e.rep.pre = H)
    (hc : Clean (searchChild rec c m searched depth nDepth inCheck ta beta e).2) :
    Sound (searchChild rec c m searched depth nDepth inCheck ta beta e).1 (-(V c (nDepth - 1))) ta beta := by
  -- no reduction at these depths: the first probe of a later move is skipped
  have hfirst : ∀ {s2 : Int} {e2 : Env}, (if (decide (searched ≥ Gen.FULL_DEPTH_MOVES) && decide (depth ≥ Gen.REDUCTION_LIMIT) && !inCheck &&
      !m.isCapture && m.promotion == PNONE) = true then (match rec c (nDepth - 2) (-ta - 1) (-ta) e with | (s, e) => (-s, e)) else (ta + 1, e)) = (s2, e2) →
      s2 = ta + 1 ∧ e2 = e := fun h => by
    rw [if_neg (by simp only [Bool.and_eq_true, decide_eq_true_eq]; intro h; omega)] at h
    exact ⟨(Prod.mk.inj h).1.symm, (Prod.mk.inj h).2.symm⟩
  revert hc
  fun_cases searchChild
  next _ s e1 h1 =>
    intro hc
    have := Sound.neg (hval c (nDepth - 1) (-beta) (-ta) e hnd (by omega) hp hH (by rw [h1]; exact hc))
    rw [h1] at this; simpa using this
  next _ s2 e2 h2 _ s1 e1 h1 _ _ s0 e0 h0 =>
    intro hc
    obtain ⟨_, rfl⟩ := hfirst h2
    have f0 := hrec c (nDepth - 1) (-beta) (-ta) e1
    have f1 := hrec c (nDepth - 1) (-ta - 1) (-ta) e2
    rw [h0] at f0; rw [h1] at f1
    have c1 : Clean e1 := hc.back f0
    have := Sound.neg (hval c (nDepth - 1) (-beta) (-ta) e1 hnd (by omega) ((f1.2 c1.1).ply.trans hp) ((f1.2 c1.1).repPre.trans hH) (by rw [h0]; exact hc))
    rw [h0] at this; simpa using this
  next _ s2 e2 h2 _ s1 e1 h1 score hout =>
    intro hc
    obtain ⟨_, rfl⟩ := hfirst h2
    have hs := Sound.neg (hval c (nDepth - 1) (-ta - 1) (-ta) e2 hnd (by omega) hp hH (by rw [h1]; exact hc))
    rw [h1, Int.neg_neg, show -(-ta - 1) = ta + 1 by omega] at hs
    exact hs.of_null hab (by simpa only [Bool.and_eq_true, decide_eq_true_eq] using hout)
  next _ s2 e2 h2 hle => exact fun _ => absurd (hfirst h2).1 (by omega)

theorem child_value {rec : Game → Nat → Int → Int → Env → Int × Env} (hrec : RecFrame rec) (V : Game → Nat → Int)
    (H : List UInt64) (p : Nat) (hval : RecVal rec V H p) {c : Game} {m : Move} {searched depth nDepth : Nat} {inCheck : Bool}
    {ta beta s : Int} (e : Env) {e2 : Env} (hd : depth < Gen.REDUCTION_LIMIT) (hnd : nDepth - 1 ≤ 2) (hab : ta < beta)
    (hp : e.ply = p) (hH : e.rep.pre = H)
    (h : searchChild rec c m searched depth nDepth inCheck ta beta { e with ply := e.ply + 1, rep := (e.rep.insert c.key).moveBack } = (s, e2))
    (hc : Clean { e2 with ply := e2.ply - 1 }) :
    e2.ply - 1 = p ∧ e2.rep.pre = H ∧ Sound s (-(V c (nDepth - 1))) ta beta := by
  have hsc := searchChild_frame rec hrec c m searched depth nDepth inCheck ta beta { e with ply := e.ply + 1, rep := (e.rep.insert c.key).moveBack }
  have hsv := searchChild_value hrec V H p hval c m searched depth nDepth inCheck ta beta
    { e with ply := e.ply + 1, rep := (e.rep.insert c.key).moveBack } hd hnd hab (by show e.ply + 1 = p + 1; omega)
  rw [h] at hsc hsv
  have h3 : Frame e { e2 with ply := e2.ply - 1 } := Frame.up e _ e2 e2.rep hsc rfl ((RepTable.insert_moveBack e.rep c.key).trans hsc.repKeep)
  have hc2 : Clean e2 := ⟨hc.1, hc.2⟩
  have hpre1 : ((e.rep.insert c.key).moveBack).pre = H := by
    rw [((RepTable.insert_moveBack e.rep c.key).2 (hc2.back hsc).1).2.1]; exact hH
  exact ⟨(h3.2 hc.1).ply.trans hp, (h3.2 hc.1).repPre.trans hH, hsv hpre1 hc2⟩

theorem moveLoop_value {R : Rules} (cfg : Cfg) {rec : Game → Nat → Int → Int → Env → Int × Env} (hrec : RecFrame rec)
    (V : Game → Nat → Int) (H : List UInt64) (p : Nat) (hval : RecVal rec V H p)
    (g : Game) (depth nDepth : Nat) (inCheck : Bool) (beta : Int) (hd : depth < Gen.REDUCTION_LIMIT) (hnd : nDepth - 1 ≤ 2) :
    ∀ (ms : List Move) (ta : Int) (flag : Flag) (legal searched : Nat) (e : Env), ta < beta → e.ply = p → e.rep.pre = H →
      Clean (moveLoop R cfg rec g depth nDepth inCheck beta ms ta flag legal searched e).2 →
      (moveLoop R cfg rec g depth nDepth inCheck beta ms ta flag legal searched e).2.ply = p ∧
      (moveLoop R cfg rec g depth nDepth inCheck beta ms ta flag legal searched e).2.rep.pre = H ∧
      (match (moveLoop R cfg rec g depth nDepth inCheck beta ms ta flag legal searched e).1 with
       | .done ta' _ legal' => ta' = bestOf R (fun c => V c (nDepth - 1)) g ms ta ∧ ta' < beta ∧ legal' = legal + madeCount R g ms
       | .ret v => v = beta ∧ bestOf R (fun c => V c (nDepth - 1)) g ms ta ≥ beta) := by
  intro ms ta flag legal searched e
  fun_induction moveLoop R cfg rec g depth nDepth inCheck beta ms ta flag legal searched e
  -- the cases, in the order of the loop: no move left; `make` fails; stopped after the child; cut-off; the move raises alpha; it does not
  next => exact fun hlt hp hH _ => ⟨hp, hH, rfl, hlt, rfl⟩
  next m ms ta flag legal searched e hmk ih =>
    rw [bestOf_cons_none R _ g m ms ta hmk, madeCount_cons_none R hmk]
    exact ih
  next m ms ta flag legal searched e c hmk e1 s e2 hsc e3 hstop =>
    exact fun _ _ _ hc => absurd hc.2 (by rw [hstop]; simp)
  next m ms ta flag legal searched e c hmk e1 s e2 hsc e3 hrun hgt e4 hge e5 e6 =>
    -- cut-off
    intro hlt hp hH hc
    have h6 : e6.rep = e3.rep ∧ e6.ply = e3.ply := cut_rep_ply cfg e3 g m depth beta
    obtain ⟨a1, a2, a3⟩ := child_value hrec V H p hval e hd hnd hlt hp hH hsc ⟨by rw [← h6.1]; exact hc.1, by simpa using hrun⟩
    rw [bestOf_cons_some R _ g m ms ta c hmk]
    refine ⟨h6.2.trans a1, by rw [h6.1]; exact a2, rfl, ?_⟩
    exact Int.le_trans hge (Int.le_trans (a3.2.1 hge) (Int.le_trans (Int.le_max_right _ _) (bestOf_ge R _ g ms _)))
  next m ms ta flag legal searched e c hmk e1 s e2 hsc e3 hrun hgt e4 hlt e5 ih =>
    -- the move raises alpha
    intro hlt0 hp hH hc
    have h5 : e5.rep = e3.rep ∧ e5.ply = e3.ply := raised_rep_ply cfg e3 m depth
    have hrun5 : e5.stopping = false := by rw [show e5.stopping = e3.stopping from raised_stopping cfg e3 m depth]; simpa using hrun
    have hf := (moveLoop_frame R cfg rec hrec g depth nDepth inCheck beta ms s Flag.exact (legal + 1) (searched + 1) e5 (fun _ => hrun5)).1
    obtain ⟨a1, a2, a3⟩ := child_value hrec V H p hval e hd hnd hlt0 hp hH hsc ⟨by rw [← h5.1]; exact (hc.back hf).1, by simpa using hrun⟩
    have hlt : s < beta := Int.lt_of_not_ge hlt
    have hmax : max ta (-(V c (nDepth - 1))) = s := by rw [a3.2.2 hgt hlt]; exact Int.max_eq_right (Int.le_of_lt hgt)
    rw [bestOf_cons_some R _ g m ms ta c hmk, hmax, madeCount_cons_some R hmk, ← Nat.add_assoc]
    exact ih hlt (h5.2.trans a1) (by rw [h5.1]; exact a2) hc
  next m ms ta flag legal searched e c hmk e1 s e2 hsc e3 hrun hle ih =>
    intro hlt0 hp hH hc
    have hrun3 : e3.stopping = false := by simpa using hrun
    have hf := (moveLoop_frame R cfg rec hrec g depth nDepth inCheck beta ms ta flag (legal + 1) (searched + 1) e3 (fun _ => hrun3)).1
    obtain ⟨a1, a2, a3⟩ := child_value hrec V H p hval e hd hnd hlt0 hp hH hsc (hc.back hf)
    have hle : s ≤ ta := Int.not_lt.1 hle
    have hmax : max ta (-(V c (nDepth - 1))) = ta := Int.max_eq_left (Int.le_trans (a3.1 hle) hle)
    rw [bestOf_cons_some R _ g m ms ta c hmk, hmax, madeCount_cons_some R hmk, ← Nat.add_assoc]
    exact ih hlt0 a1 a2 hc

theorem nullMoveStep_off (R : Rules) (rec : Game → Nat → Int → Int → Env → Int × Env) (g : Game) (nDepth : Nat) (inCheck : Bool)
    (beta : Int) (e : Env) (h : ¬ (nDepth ≥ 3 ∧ inCheck = false)) : nullMoveStep R rec g nDepth inCheck beta e = (none, e) := by
  unfold nullMoveStep
  have : ¬ ((decide (nDepth ≥ 3) && !inCheck && decide (e.ply > 0)) = true) := by
    simp only [Bool.and_eq_true, decide_eq_true_eq, Bool.not_eq_true']
    intro hh; exact h ⟨hh.1.1, hh.1.2⟩
  rw [if_neg this]

theorem searchMoves_value {R : Rules} (cfg : Cfg) {rec : Game → Nat → Int → Int → Env → Int × Env} (hrec : RecFrame rec)
    (V : Game → Nat → Int) (H : List UInt64) (p : Nat) (hval : RecVal rec V H p)
    (g : Game) (depth nDepth : Nat) (alpha beta : Int) (e : Env) (hd : depth < Gen.REDUCTION_LIMIT) (hnd : nDepth - 1 ≤ 2)
    (hab : alpha < beta) (hp : e.ply = p) (hH : e.rep.pre = H)
    (hc : Clean (searchMoves R cfg rec g depth nDepth (R.inCheck g) alpha beta e).2) :
    Sound (searchMoves R cfg rec g depth nDepth (R.inCheck g) alpha beta e).1 (match maxChild R (fun c => V c (nDepth - 1)) g (R.generate g true) with
      | none => if R.inCheck g then -Gen.MATE_VALUE + p else 0
      | some M => M) alpha beta := by
  obtain ⟨ms, a, b, hperm, h⟩ := searchMoves_eq R cfg rec g depth nDepth (R.inCheck g) alpha beta e
  rw [h] at hc ⊢
  have hloopF := moveLoop_frame R cfg rec hrec g depth nDepth (R.inCheck g) beta ms alpha Flag.alpha 0 0 { e with followPv := a, scorePv := b }
    (fun h => absurd h (by omega))
  have hloop := moveLoop_value (R := R) cfg hrec V H p hval g depth nDepth (R.inCheck g) beta hd hnd ms alpha Flag.alpha 0 0
    { e with followPv := a, scorePv := b } hab hp hH
  generalize moveLoop R cfg rec g depth nDepth (R.inCheck g) beta ms alpha Flag.alpha 0 0 { e with followPv := a, scorePv := b } = lo at hloopF hloop hc ⊢
  obtain ⟨out, e7⟩ := lo
  obtain ⟨h7ply, _, k3⟩ := hloop (hc.back (finish_frame cfg g depth (R.inCheck g) out e7 hloopF.2))
  -- the order of the moves does not matter
  have hnone := maxChild_none_iff_madeCount R (fun c => V c (nDepth - 1)) g ms
  rw [bestOf_perm R _ g _ _ hperm alpha, bestOf_maxChild] at k3
  rw [maxChild_perm R _ g _ _ hperm] at hnone
  cases hm : maxChild R (fun c => V c (nDepth - 1)) g (R.generate g true) with
  | none =>
    -- no move can be made: the loop ran to the end without counting one
    rw [hm] at k3
    cases out with
    | ret v => exact absurd k3.2 (Int.not_le.2 hab)
    | done ta flag legal =>
      obtain ⟨_, _, hl⟩ : _ ∧ _ ∧ legal = 0 + madeCount R g ms := k3
      rw [hnone.1 hm] at hl
      subst hl
      dsimp only [finish]
      rw [if_pos (by decide), ev_ply, h7ply]
      exact Sound.self _ _ _
  | some M =>
    rw [hm] at k3
    have hne : madeCount R g ms ≠ 0 := fun h0 => by rw [hnone.2 h0] at hm; cases hm
    cases out with
    | ret v =>
      obtain ⟨hv, hge⟩ : v = beta ∧ max alpha M ≥ beta := k3
      rw [hv]
      have := Sound.clamp M hab; rwa [Int.min_eq_left hge] at this
    | done ta flag legal =>
      obtain ⟨hta, hlt, hl⟩ : ta = max alpha M ∧ ta < beta ∧ legal = 0 + madeCount R g ms := k3
      dsimp only [finish]
      rw [if_neg (by rw [hl]; simpa using hne)]
      have := Sound.clamp M hab; rwa [← hta, Int.min_eq_right (Int.le_of_lt hlt)] at this

/-- a node that is expanded, at a depth where no null move is tried -/
theorem expand_value {R : Rules} (cfg : Cfg) {rec : Game → Nat → Int → Int → Env → Int × Env} (hrec : RecFrame rec)
    (V : Game → Nat → Int) (H : List UInt64) (p : Nat) (hval : RecVal rec V H p)
    (g : Game) (depth : Nat) (alpha beta : Int) (e : Env) (hd : depth ≤ 2)
    (hab : alpha < beta) (hp : e.ply = p) (hH : e.rep.pre = H) (hc : Clean (expand R cfg rec g depth alpha beta e).2) :
    Sound (expand R cfg rec g depth alpha beta e).1
      (match maxChild R (fun c => V c ((if R.inCheck g then depth + 1 else depth) - 1)) g (R.generate g true) with
      | none => if R.inCheck g then -Gen.MATE_VALUE + p else 0
      | some M => M) alpha beta := by
  unfold expand at hc ⊢
  dsimp only at hc ⊢
  generalize hnd : (if R.inCheck g = true then depth + 1 else depth) = nDepth at hc ⊢
  have hoff : ¬ (nDepth ≥ 3 ∧ R.inCheck g = false) := by
    rintro ⟨h1, h2⟩; rw [← hnd, h2] at h1; simp at h1; omega
  rw [nullMoveStep_off R _ g nDepth (R.inCheck g) beta _ hoff] at hc ⊢
  exact searchMoves_value cfg hrec V H p hval g depth nDepth alpha beta _ (by show depth < 3; omega) (by rw [← hnd]; split <;> omega)
    hab hp hH hc

theorem negamax_value (R : Rules) (cfg : Cfg) (hbyp : cfg.ttBypass = true) (H : List UInt64) :
    ∀ (fuel : Nat) (g : Game) (depth : Nat) (alpha beta : Int) (e : Env), depth ≤ 2 → alpha < beta → e.ply ≤ 63 →
      e.ply + fuel ≥ Gen.MAX_PLY → e.rep.pre = H → Clean (negamax R cfg fuel g depth alpha beta e).2 →
      Sound (negamax R cfg fuel g depth alpha beta e).1 (nVal R H fuel g depth e.ply) alpha beta := by
  have hMP : Gen.MAX_PLY = 64 := rfl
  intro fuel
  induction fuel with
  | zero => intro g depth alpha beta e _ _ h1 h2 _ _; omega
  | succ fuel ih =>
    intro g depth alpha beta e hd hab hply hfuel hH
    obtain ⟨dg, n, lg, h⟩ := negamax_succ R cfg fuel g depth alpha beta e
    obtain ⟨po, pl, ch, dg', n', lg', st, ou, de, -, -, h3⟩ := afterProbe_eq R cfg (negamax R cfg fuel) g depth alpha beta
      { e with digest := dg, events := n, log := lg }
    rw [h, nVal, show e.rep.isRepetition g.key = H.contains g.key by unfold RepTable.isRepetition; rw [hH]]
    by_cases hrep : (decide (e.ply > 0) && H.contains g.key) = true
    · -- a position of the history: draw
      rw [if_pos hrep, if_pos hrep]; exact fun _ => Sound.self _ _ _
    rw [if_neg hrep, if_neg hrep, probeNode_bypass cfg g depth alpha beta _ hbyp, if_neg (by decide), h3]
    dsimp only
    by_cases hcap : e.ply ≥ Gen.MAX_PLY - 1
    · rw [if_pos hcap, if_pos hcap]; exact fun _ => Sound.self _ _ _
    rw [if_neg hcap, if_neg hcap]
    have h62 : e.ply + 1 ≤ 63 := by omega
    have hfu : e.ply + 1 + fuel ≥ Gen.MAX_PLY := by omega
    by_cases hq : (depth == 0 || g.halfMoves == 100) = true
    · rw [if_pos hq, if_pos hq]
      exact fun _ => quiescence_value R cfg qFuel g alpha beta _ hab (by show e.ply ≤ _; omega) (qFuel_room e.ply)
    · rw [if_neg hq, if_neg hq]
      have hval : RecVal (negamax R cfg fuel) (fun c d => nVal R H fuel c d (e.ply + 1)) H e.ply := by
        intro c d a b e' hd' hab' hp' hH' hc'
        have := ih c d a b e' hd' hab' (by rw [hp']; exact h62) (by rw [hp']; exact hfu) hH' hc'
        rw [hp'] at this; exact this
      exact expand_value cfg (negamax_frame R cfg fuel) _ H e.ply hval g depth alpha beta _ hd hab rfl hH

/-- one iteration of the loop: nominal depth, the aspiration window it was searched with, the score it came back with -/
structure Iter where
  depth : Nat
  alpha : Int
  beta : Int
  score : Int

/-- the iterations `idLoop` runs, in order (same recursion as `idLoop`, recording instead of returning) -/
def idTrace (R : Rules) (cfg : Cfg) (g : Game) : Nat → Nat → Int → Int → Env → List Iter
  | 0, _, _, _, _ => []
  | count + 1, cur, alpha, beta, e =>
    let r := negamax R cfg negaFuel g cur alpha beta { e with followPv := true }
    ⟨cur, alpha, beta, r.1⟩ ::
      (if r.2.stopping then [] else
       if r.1 <= alpha || r.1 >= beta then idTrace R cfg g count (cur + 1) (-Gen.INFINITY) Gen.INFINITY r.2
       else idTrace R cfg g count (cur + 1) (r.1 - 50) (r.1 + 50) (r.2.print (infoLine r.1 cur r.2)))

theorem idLoop_score (R : Rules) (cfg : Cfg) (g : Game) :
    ∀ (count cur : Nat) (alpha beta score : Int) (e : Env),
      (idLoop R cfg g count cur alpha beta score e).1 = ((idTrace R cfg g count cur alpha beta e).getLast?.map Iter.score).getD score := by
  intro count
  induction count with
  | zero => intro cur alpha beta score e; rfl
  | succ count ih =>
    intro cur alpha beta score e
    simp only [idLoop, idTrace]
    generalize negamax R cfg negaFuel g cur alpha beta { e with followPv := true } = r
    obtain ⟨sc, e1⟩ := r
    by_cases hs : e1.stopping = true
    · rw [if_pos hs, if_pos hs]; rfl
    · rw [if_neg hs, if_neg hs]
      by_cases hw : (decide (sc ≤ alpha) || decide (sc ≥ beta)) = true
      · rw [if_pos hw, if_pos hw, ih, getLast?_cons_getD]
      · rw [if_neg hw, if_neg hw, ih, getLast?_cons_getD]

theorem idLoop_value (R : Rules) (cfg : Cfg) (hbyp : cfg.ttBypass = true) (g : Game) (H : List UInt64) :
    ∀ (count cur : Nat) (alpha beta score : Int) (e : Env), alpha < beta → e.ply = 0 → e.rep.pre = H →
      Clean (idLoop R cfg g count cur alpha beta score e).2.2 →
      ∀ it ∈ idTrace R cfg g count cur alpha beta e, it.depth ≤ 2 →
        it.alpha < it.beta ∧ Sound it.score (nVal R H negaFuel g it.depth 0) it.alpha it.beta := by
  intro count
  induction count with
  | zero => intro cur alpha beta score e _ _ _ _ it hit; simp [idTrace] at hit
  | succ count ih =>
    intro cur alpha beta score e hab hp hH hc it hit hd
    simp only [idLoop] at hc
    simp only [idTrace] at hit
    have hn := negamax_frame R cfg negaFuel g cur alpha beta { e with followPv := true }
    have hv := fun hd' : cur ≤ 2 => negamax_value R cfg hbyp H negaFuel g cur alpha beta { e with followPv := true } hd' hab
      (by show e.ply ≤ 63; omega) (by unfold negaFuel; omega) hH
    generalize negamax R cfg negaFuel g cur alpha beta { e with followPv := true } = r at hn hv hc hit
    obtain ⟨sc, e1⟩ := r
    have hINF : -Gen.INFINITY < Gen.INFINITY := by decide
    by_cases hs : e1.stopping = true
    · rw [if_pos hs] at hc
      exact absurd hc.2 (by rw [hs]; simp)
    · rw [if_neg hs] at hc hit
      have hrun : e1.stopping = false := by simpa using hs
      have hc1 : Clean e1 := by
        by_cases hw : (decide (sc ≤ alpha) || decide (sc ≥ beta)) = true
        · rw [if_pos hw] at hc
          exact hc.back (idLoop_frame R cfg g count (cur + 1) (-Gen.INFINITY) Gen.INFINITY sc e1)
        · rw [if_neg hw] at hc
          exact hc.back (((frame_steps False).print e1 _ hrun).trans (idLoop_frame R cfg g count (cur + 1) (sc - 50) (sc + 50) sc _))
      have core := hn.2 hc1.1
      have hp1 : e1.ply = 0 := by rw [core.ply]; exact hp
      have hH1 : e1.rep.pre = H := by rw [core.repPre]; exact hH
      rcases List.mem_cons.1 hit with rfl | hit
      · have := hv hd hc1; rw [hp] at this; exact ⟨hab, this⟩
      · by_cases hw : (decide (sc ≤ alpha) || decide (sc ≥ beta)) = true
        · rw [if_pos hw] at hc hit
          exact ih (cur + 1) (-Gen.INFINITY) Gen.INFINITY sc e1 hINF hp1 hH1 hc it hit hd
        · rw [if_neg hw] at hc hit
          exact ih (cur + 1) (sc - 50) (sc + 50) sc (e1.print (infoLine sc cur e1)) (by omega) hp1 hH1 hc it hit hd

end Jence
