/-
  The history array never overflows during a search that starts with enough room: `Safe e` - not yet overflowed, at most
  64 plies deep, and at least `65 - ply` free slots. The capture search pushes one key per ply and stops at the ply cap;
  the main search pushes the child's key and pops it at once. With the master invariant (`Frame`) this turns every
  "the run did not overflow" hypothesis into a condition on the length of the game history handed in (finding D7: the
  Rust code panics when the history array is full).
-/

import Jence.Lemmas.Frame
namespace Jence
open Jence

/-- the free slots a node needs go down as the ply goes up: the capture search keeps one key per ply and stops at ply
    64, the main search keeps none (it needs one slot for the key it pushes and pops). `64 - ply` free slots would be
    carried by the same proofs; `HistoryRoom` asks for 65 -/
def Safe (e : Env) : Prop := e.rep.overflow = false ∧ e.ply ≤ 64 ∧ e.rep.index + 65 ≤ e.rep.table.size + e.ply

theorem Safe.of_frame {e e' : Env} (h : Frame e e') (hs : Safe e) (ho : e'.rep.overflow = false) : Safe e' := by
  have core := h.2 ho
  refine ⟨ho, ?_, ?_⟩
  · rw [core.ply]; exact hs.2.1
  · rw [core.ply, core.repIndex, core.repSize]; exact hs.2.2

theorem Safe.push {e : Env} (hs : Safe e) (hp : e.ply ≤ 63) (k : UInt64) : Safe { e with rep := e.rep.insert k, ply := e.ply + 1 } := by
  obtain ⟨ho, _, hroom⟩ := hs
  obtain ⟨_, i2, i3, i1⟩ := RepTable.insert_pre e.rep k (by omega)
  exact ⟨by rw [i1]; exact ho, by show e.ply + 1 ≤ 64; omega,
    by show (e.rep.insert k).index + 65 ≤ (e.rep.insert k).table.size + (e.ply + 1); rw [i2, i3]; omega⟩

theorem Safe.moveBack {e : Env} (hs : Safe e) : Safe { e with rep := e.rep.moveBack } :=
  ⟨hs.1, hs.2.1, by show e.rep.index - 1 + 65 ≤ e.rep.table.size + e.ply; have := hs.2.2; omega⟩

/-- started in a `Safe` environment the capture search returns without overflow: what `quiescence_safe` reads off the
    third conjunct of `SafeStep` -/
def QRecSafe (rec : Game → Int → Int → Env → Int × Env) : Prop := ∀ c a b e, Safe e → (rec c a b e).2.rep.overflow = false
/-- the same of the main search (`negamax_safe`) -/
def RecSafe (rec : Game → Nat → Int → Int → Env → Int × Env) : Prop := ∀ c d a b e, Safe e → (rec c d a b e).2.rep.overflow = false

/-- what a step of the search does to a `Safe` environment: ply back, the master invariant, and no overflow on the way -/
def SafeStep (e e' : Env) : Prop := e'.ply = e.ply ∧ Frame e e' ∧ (Safe e → e'.rep.overflow = false)

theorem SafeStep.safe {e e' : Env} (h : SafeStep e e') (hs : Safe e) : Safe e' := Safe.of_frame h.2.1 hs (h.2.2 hs)

/-- a step that leaves the history array alone -/
theorem SafeStep.of_same {e e' : Env} (h : e'.ply = e.ply ∧ Frame e e') (hrep : e'.rep = e.rep) : SafeStep e e' :=
  ⟨h.1, h.2, fun hs => by rw [hrep]; exact hs.1⟩

/-- `Safe` survives every step of the search, given the ply bounds the program tests before it descends: a push needs
    a free slot, which `Safe` provides while `ply ≤ 64` -/
theorem safe_steps : Steps True SafeStep :=
  have B := (plyEq_steps True).and (frame_steps True)
  { refl := fun e => ⟨rfl, Frame.refl e, fun hs => hs.1⟩
    trans := fun h1 h2 => ⟨h2.1.trans h1.1, h1.2.1.trans h2.2.1, fun hs => h2.2.2 (h1.safe hs)⟩
    ghost := fun e dg n lg ps => .of_same (B.ghost e dg n lg ps) rfl
    pollRun := fun e po ch dg n lg st ou de hr ho => .of_same (B.pollRun e po ch dg n lg st ou de hr ho) rfl
    count := fun e hp => .of_same (B.count e hp) rfl
    flags := fun e a b => .of_same (B.flags e a b) rfl
    pushPop := fun e k e2 hp h =>
      have ⟨h1, h2⟩ := B.pushPop e k e2 hp ⟨h.1, h.2.1⟩
      ⟨h1, h2, fun hs => h.2.2 (hs.push (hp trivial) k)⟩
    pvLen := fun e => .of_same (B.pvLen e) rfl
    ttHit := fun e => .of_same (B.ttHit e) rfl
    child := fun e k e2 hp h =>
      have ⟨h1, h2⟩ := B.child e k e2 hp ⟨h.1, h.2.1⟩
      ⟨h1, h2, fun hs => h.2.2 (hs.push (Nat.le_succ_of_le (hp trivial)) k).moveBack⟩
    null := fun e e2 hp h => by
      obtain ⟨h1, h2⟩ := B.null e e2 hp ⟨h.1, h.2.1⟩
      have := hp trivial
      exact ⟨h1, h2, fun hs => h.2.2 ⟨hs.1, by show e.ply + 1 ≤ 64; omega,
        by show e.rep.index + 65 ≤ e.rep.table.size + (e.ply + 1); have := hs.2.2; omega⟩⟩
    pv := fun e m hr => .of_same (B.pv e m hr) rfl
    tables := fun e ks h hr => .of_same (B.tables e ks h hr) rfl
    record := fun e k s d f hr => .of_same (B.record e k s d f hr) rfl
    print := fun e l hr => .of_same (B.print e l hr) rfl }

theorem quiescence_safe (R : Rules) (cfg : Cfg) : ∀ fuel, QRecSafe (quiescence R cfg fuel) :=
  fun fuel g a b e => (quiescence_steps safe_steps.toQSteps (fun _ _ _ h => h.1) R cfg fuel g a b e).2.2

theorem negamax_safe (R : Rules) (cfg : Cfg) : ∀ fuel, RecSafe (negamax R cfg fuel) :=
  fun fuel g d a b e => (negamax_steps safe_steps (fun _ _ _ h => h.1) R cfg fuel g d a b e).2.2

theorem idLoop_safe (R : Rules) (cfg : Cfg) (g : Game) :
    ∀ (count cur : Nat) (alpha beta score : Int) (e : Env), Safe e →
      (idLoop R cfg g count cur alpha beta score e).2.2.rep.overflow = false :=
  fun count cur alpha beta score e => (idLoop_steps safe_steps (fun _ _ _ h => h.1) R cfg g count cur alpha beta score e).2.2

theorem fresh_safe (tt : TT) (rep : RepTable) (ho : rep.overflow = false) (hroom : rep.index + 65 ≤ rep.table.size) :
    Safe (Env.fresh tt rep) := ⟨ho, Nat.zero_le _, by show rep.index + 65 ≤ rep.table.size + 0; omega⟩

/-- room for a whole search: the history array has not overflowed and at least 65 slots are free -/
def HistoryRoom (rep : RepTable) : Prop := rep.overflow = false ∧ rep.index + 65 ≤ rep.table.size

/-- **a search that is handed a history with 65 free slots never overflows the history array** (every rules instance,
    depth, table, poll schedule): not by the time it returns, and not by the end of its deepening loop, the state the
    theorems about the loop speak of -/
theorem search_no_overflow (R : Rules) (cfg : Cfg) (g : Game) (depth : Int) (tt : TT) (rep : RepTable) (h : HistoryRoom rep) :
    (search R cfg g depth tt rep).2.rep.overflow = false ∧ (searchLoopEnd R cfg g depth tt rep).2.2.rep.overflow = false := by
  have hl := ((searchLoopEnd_steps safe_steps (fun _ _ _ h => h.1) R cfg g depth tt rep).2.2 (fresh_safe tt rep h.1 h.2))
  obtain ⟨_, _, _, _, he⟩ := search_eq R cfg g depth tt rep
  exact ⟨by rw [he]; exact hl, hl⟩

/-- the table the command loop creates has `REP_CAPACITY` slots: histories of up to `REP_CAPACITY - 65` positions leave room -/
theorem new_room : HistoryRoom RepTable.new := by
  refine ⟨rfl, ?_⟩
  show 0 + 65 ≤ (Array.replicate Gen.REP_CAPACITY (0 : UInt64)).size
  rw [Array.size_replicate]; decide

end Jence
