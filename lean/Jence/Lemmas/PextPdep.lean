/-
  PEXT and PDEP (`_pext_u64`, `set_occupancy`) as functions of the ascending list of set bits of the mask, and the
  round trip the PEXT-indexed attack table relies on: `pdep (pext x m) m = x &&& m`. The population count is a loop of
  the same shape.
-/
import Jence.Lemmas.BitScan
namespace Jence
open Jence

/-- the shape all the `while m != 0 { s = tzcnt m; m = blsr m; … }` loops share -/
def scan {σ : Type} (f : σ → Nat → σ) : Nat → UInt64 → σ → σ
  | 0, _, s => s
  | fuel + 1, m, s => if m == 0 then s else scan f fuel (blsr m) (f s (tzcnt m))

theorem scan_eq_foldl {σ : Type} (f : σ → Nat → σ) (fuel : Nat) : ∀ (m : UInt64) (s : σ),
    scan f fuel m s = (bitsOfAux fuel m []).foldl f s := by
  induction fuel with
  | zero => intro m s; rfl
  | succ n ih =>
    intro m s
    simp only [scan, bitsOfAux]
    split
    · rfl
    · rw [ih, bitsOfAux_acc _ _ [tzcnt m]]; simp

/-- one step of PEXT / PDEP: the `k`-th set bit `s` of the mask; if `test k s`, set bit `pos k s` -/
def placeStep (test : Nat → Nat → Bool) (pos : Nat → Nat → Nat) (p : Nat × UInt64) (s : Nat) : Nat × UInt64 :=
  (p.1 + 1, if test p.1 s then p.2 ||| bit (pos p.1 s) else p.2)

def pextStep (x : UInt64) : Nat × UInt64 → Nat → Nat × UInt64 := placeStep (fun _ s => getBit x s) (fun k _ => k)
def pdepStep (idx : UInt64) : Nat × UInt64 → Nat → Nat × UInt64 := placeStep (fun k _ => getBit idx k) (fun _ s => s)

theorem foldl_place (test : Nat → Nat → Bool) (pos : Nat → Nat → Nat) (L : List Nat) : ∀ (k : Nat) (acc : UInt64),
    (∀ i s, L[i]? = some s → pos (k + i) s < 64) → ∀ t, t < 64 →
    (getBit (L.foldl (placeStep test pos) (k, acc)).2 t = true ↔
      getBit acc t = true ∨ ∃ i s, L[i]? = some s ∧ pos (k + i) s = t ∧ test (k + i) s = true) := by
  induction L with
  | nil => intro k acc _ t _; simp
  | cons s L ih =>
    intro k acc hpos t ht
    have h0 : pos k s < 64 := hpos 0 s rfl
    have shift : ∀ i, k + 1 + i = k + (i + 1) := fun i => by omega
    rw [List.foldl_cons, show placeStep test pos (k, acc) s = (k + 1, if test k s then acc ||| bit (pos k s) else acc) from rfl,
      ih (k + 1) _ (fun i s' hi => by rw [shift]; exact hpos (i + 1) s' hi) t ht]
    have hacc : getBit (if test k s then acc ||| bit (pos k s) else acc) t = true ↔
        getBit acc t = true ∨ (pos k s = t ∧ test k s = true) := by
      by_cases hx : test k s = true
      · rw [if_pos hx, getBit_or _ _ _ ht, getBit_bit _ t h0 ht]; simp [hx]
      · simp [hx]
    rw [hacc]
    constructor
    · rintro ((h | ⟨h1, h2⟩) | ⟨i, s', hi, h1, h2⟩)
      · exact Or.inl h
      · exact Or.inr ⟨0, s, rfl, h1, h2⟩
      · exact Or.inr ⟨i + 1, s', hi, by rw [← shift]; exact h1, by rw [← shift]; exact h2⟩
    · rintro (h | ⟨i, s', hi, h1, h2⟩)
      · exact Or.inl (Or.inl h)
      · cases i with
        | zero => cases Option.some.inj hi; exact Or.inl (Or.inr ⟨h1, h2⟩)
        | succ i => exact Or.inr ⟨i, s', hi, by rw [shift]; exact h1, by rw [shift]; exact h2⟩

theorem pextAux_scan (x : UInt64) (fuel : Nat) : ∀ (m : UInt64) (k : Nat) (acc : UInt64),
    pextAux fuel x m k acc = (scan (pextStep x) fuel m (k, acc)).2 := by
  induction fuel with
  | zero => intro m k acc; rfl
  | succ n ih =>
    intro m k acc
    simp only [pextAux, scan]
    split
    · rfl
    · rw [ih]; rfl

theorem pdepAux_scan (idx : UInt64) (fuel : Nat) : ∀ (m : UInt64) (k : Nat) (acc : UInt64),
    pdepAux fuel idx m k acc = (scan (pdepStep idx) fuel m (k, acc)).2 := by
  induction fuel with
  | zero => intro m k acc; rfl
  | succ n ih =>
    intro m k acc
    simp only [pdepAux, scan]
    split
    · rfl
    · rw [ih]; rfl

theorem popLoop_scan (fuel : Nat) : ∀ (m : UInt64) (acc : Nat), popLoop fuel m acc = scan (fun n _ => n + 1) fuel m acc := by
  induction fuel with
  | zero => intro m acc; rfl
  | succ n ih =>
    intro m acc
    simp only [popLoop, scan]
    split
    · rfl
    · rw [ih]

theorem pext_eq (x m : UInt64) : pext x m = ((bitsOf m).foldl (pextStep x) (0, 0)).2 := by
  unfold pext bitsOf; rw [pextAux_scan, scan_eq_foldl]

theorem pdep_eq (idx m : UInt64) : pdep idx m = ((bitsOf m).foldl (pdepStep idx) (0, 0)).2 := by
  unfold pdep bitsOf; rw [pdepAux_scan, scan_eq_foldl]

theorem popCount_eq (m : UInt64) : popCount m = (bitsOf m).length := by
  unfold popCount bitsOf; rw [popLoop_scan, scan_eq_foldl]
  rw [List.foldl_add_const]; omega

theorem getBit_pext (x m : UInt64) (j : Nat) (hj : j < 64) :
    getBit (pext x m) j = true ↔ ∃ s, (bitsOf m)[j]? = some s ∧ getBit x s = true := by
  rw [pext_eq, pextStep, foldl_place _ _ (bitsOf m) 0 0 (fun i _ hi => (Nat.zero_add i).symm ▸ bitsOf_index_lt m hi) j hj,
    getBit_zero j hj]
  constructor
  · rintro (h | ⟨i, s, hi, h1, h2⟩)
    · exact absurd h (by simp)
    · rw [Nat.zero_add] at h1; subst h1; exact ⟨s, hi, h2⟩
  · rintro ⟨s, h1, h2⟩; exact Or.inr ⟨j, s, h1, Nat.zero_add j, h2⟩

theorem getBit_pdep (idx m : UInt64) (t : Nat) (ht : t < 64) :
    getBit (pdep idx m) t = true ↔ ∃ i, (bitsOf m)[i]? = some t ∧ getBit idx i = true := by
  rw [pdep_eq, pdepStep, foldl_place _ _ (bitsOf m) 0 0 (fun i s hi => bitsOf_lt m s (List.mem_of_getElem? hi)) t ht,
    getBit_zero t ht]
  constructor
  · rintro (h | ⟨i, s, hi, h1, h2⟩)
    · exact absurd h (by simp)
    · subst h1; exact ⟨i, hi, by simpa using h2⟩
  · rintro ⟨i, hi, h2⟩; exact Or.inr ⟨i, t, hi, rfl, by simpa using h2⟩

theorem pdep_pext (x m : UInt64) : pdep (pext x m) m = x &&& m := by
  apply ext_getBit
  intro t ht
  rw [Bool.eq_iff_iff, getBit_pdep _ _ t ht, getBit_and _ _ _ ht, Bool.and_eq_true, ← (mem_bitsOf m t).trans (and_iff_right ht),
    List.mem_iff_getElem?]
  constructor
  · rintro ⟨i, hi, h2⟩
    obtain ⟨s, hs, hx⟩ := (getBit_pext x m i (bitsOf_index_lt m hi)).1 h2
    cases Option.some.inj (hs.symm.trans hi)
    exact ⟨hx, i, hi⟩
  · rintro ⟨hx, i, hi⟩
    exact ⟨i, hi, (getBit_pext x m i (bitsOf_index_lt m hi)).2 ⟨t, hi, hx⟩⟩

theorem pext_lt (x m : UInt64) : (pext x m).toNat < 2 ^ popCount m := by
  apply Nat.lt_pow_two_of_testBit
  intro i hi
  rw [popCount_eq] at hi
  by_cases h64 : i < 64
  · rw [← getBit_eq_testBit _ _ h64]
    cases h : getBit (pext x m) i
    · rfl
    · obtain ⟨s, hs, _⟩ := (getBit_pext x m i h64).1 h
      have := (List.getElem?_eq_some_iff.1 hs).1; omega
  · exact testBit_toNat_of_ge _ i (by omega)

theorem popCount_le (b : UInt64) : popCount b ≤ 64 := popCount_eq b ▸ bitsOf_length_le b

end Jence
