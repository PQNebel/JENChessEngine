/-
  The rules' pseudo-legal list and the generator's list, each as non-castling moves ++ castling moves; the non-castling
  parts agree as sets of rules moves, one own piece on one square at a time. Castling is `Lemmas/CastleRefine`.
-/
import Jence.Lemmas.GenRefine
namespace Jence
open Jence

/-- the rules' pseudo-legal moves without castling -/
def specNonCastle (p : Spec.Position) : List Spec.SMove :=
  (List.range 64).flatMap fun s =>
    match Spec.at_ p s with
    | some pc => if pc.white == p.white then Spec.pieceMoves p s pc else []
    | none => []

theorem spec_pseudoLegal_eq (p : Spec.Position) : Spec.pseudoLegal p = specNonCastle p ++ Spec.castlingMoves p := rfl

/-- the rules' test for castling to the king's side (`qs = false`) or the queen's side, as `Spec.castlingMoves` has it -/
def specCastleOk (p : Spec.Position) (qs : Bool) : Bool :=
  let w := p.white
  let row : Nat := if w then 56 else 0
  let free (l : List Nat) : Bool := l.all fun s => !Spec.occupiedIn p s
  let safe (l : List Nat) : Bool := l.all fun s => !Spec.attacked p s (!w)
  let kingHome := Spec.at_ p (row + 4) == some ⟨w, .king⟩
  if qs then (if w then p.wq else p.bq) && kingHome && Spec.at_ p row == some ⟨w, .rook⟩ &&
      free [row + 1, row + 2, row + 3] && safe [row + 4, row + 3, row + 2]
  else (if w then p.wk else p.bk) && kingHome && Spec.at_ p (row + 7) == some ⟨w, .rook⟩ &&
      free [row + 5, row + 6] && safe [row + 4, row + 5, row + 6]

def specCastleMove (w qs : Bool) : Spec.SMove := ⟨(if w then 56 else 0) + 4, (if w then 56 else 0) + (if qs then 2 else 6), none⟩

theorem spec_castlingMoves_eq (p : Spec.Position) : Spec.castlingMoves p =
    (if specCastleOk p false = true then [specCastleMove p.white false] else []) ++
    (if specCastleOk p true = true then [specCastleMove p.white true] else []) := rfl

theorem mem_spec_castlingMoves (p : Spec.Position) (sm : Spec.SMove) :
    sm ∈ Spec.castlingMoves p ↔ ∃ qs, specCastleOk p qs = true ∧ sm = specCastleMove p.white qs := by
  rw [spec_castlingMoves_eq]
  cases h1 : specCastleOk p false <;> cases h2 : specCastleOk p true <;> simp [h1, h2]

/-- what the generator emits for the piece `X` standing on `f` -/
def innerOf (g : Game) (X f : Nat) : List Move :=
  if X = (if g.white then WP else BP) then pawnMoves g true f else pieceInner g true X (attacksOf g.allOcc X) f

theorem innerOf_pawn (g : Game) (f : Nat) : innerOf g (if g.white then WP else BP) f = pawnMoves g true f := by
  unfold innerOf; rw [if_pos rfl]

theorem innerOf_piece (g : Game) (X f : Nat) (h : X ≠ (if g.white then WP else BP)) :
    innerOf g X f = pieceInner g true X (attacksOf g.allOcc X) f := by
  unfold innerOf; rw [if_neg h]

/-- the body of `generateMoves` in mode All without its castling part (`genNonCastle_eq`, `mem_castling_or_nonCastle`) -/
def genNonCastle (g : Game) : List Move :=
  let o := if g.white then 0 else 6
  (bitsOf (g.bb (WP + o))).flatMap (pawnMoves g true) ++
  pieceMoves g true (WN + o) getKnightAttacks ++
  pieceMoves g true (WB + o) (fun f => getBishopAttacks f g.allOcc) ++
  pieceMoves g true (WR + o) (fun f => getRookAttacks f g.allOcc) ++
  pieceMoves g true (WQ + o) (fun f => getQueenAttacks f g.allOcc) ++
  pieceMoves g true (WK + o) getKingAttacks

theorem genNonCastle_eq (g : Game) : genNonCastle g =
    (bitsOf (g.bb (WP + sideOff g.white))).flatMap (pawnMoves g true) ++
      [WN, WB, WR, WQ, WK].flatMap fun k => pieceMoves g true (k + sideOff g.white) (attacksOf g.allOcc (k + sideOff g.white)) := by
  obtain ⟨h1, h2, h3, h4, h5⟩ := attacksOf_kinds g.allOcc g.white
  simp only [List.flatMap_cons, List.flatMap_nil, List.append_nil, h1, h2, h3, h4, h5, ← List.append_assoc]
  rfl

theorem genNonCastle_notCastle (g : Game) (hep : g.ep ≤ 64) : ∀ m ∈ genNonCastle g, m.isCastling = false := by
  intro m hm
  rw [genNonCastle_eq, List.mem_append, mem_kinds_flatMap, List.mem_flatMap, pawn_sideOff] at hm
  rcases hm with ⟨f, hf, h⟩ | ⟨X, hX, _, h⟩
  · exact pawnMoves_notCastle (Nat.le_of_lt ((mem_bitsOf _ _).1 hf).1) hep m h
  · exact pieceMoves_notCastle (Nat.le_of_lt (ownP_lt hX)) m h

theorem mem_castling_or_nonCastle (g : Game) (m : Move) : m ∈ generateMoves g true ↔ m ∈ castlingMoves g true ∨ m ∈ genNonCastle g := by
  rw [generateMoves_eq, genNonCastle_eq]
  simp only [List.mem_append]
  rw [← or_assoc]
  exact or_congr_left Or.comm

section nc
variable {g : Game} {b : Board}

theorem mem_genNonCastle (wf : Wf g b) (m : Move) :
    m ∈ genNonCastle g ↔ ∃ X f, ownP g.white X ∧ f < 64 ∧ b f = some X ∧ m ∈ innerOf g X f := by
  have hP := pawn_own g.white
  rw [genNonCastle_eq, List.mem_append, mem_kinds_flatMap, List.mem_flatMap, pawn_sideOff]
  constructor
  · rintro (⟨f, hf, h⟩ | ⟨X, hX, hnp, h⟩)
    · obtain ⟨h1, h2⟩ := (mem_bitsOf_board wf _ f (ownP_lt hP)).1 hf
      exact ⟨_, f, hP, h1, h2, by rw [innerOf_pawn]; exact h⟩
    · rw [pieceMoves_eq, List.mem_flatMap] at h
      obtain ⟨f, hf, h⟩ := h
      obtain ⟨h1, h2⟩ := (mem_bitsOf_board wf X f (ownP_lt hX)).1 hf
      exact ⟨X, f, hX, h1, h2, by rw [innerOf_piece g X f hnp]; exact h⟩
  · rintro ⟨X, f, hX, h1, h2, h⟩
    have hf := (mem_bitsOf_board wf X f (ownP_lt hX)).2 ⟨h1, h2⟩
    by_cases hp : X = (if g.white then WP else BP)
    · subst hp; rw [innerOf_pawn] at h; exact Or.inl ⟨f, hf, h⟩
    · rw [innerOf_piece g X f hp] at h
      exact Or.inr ⟨X, hX, hp, by rw [pieceMoves_eq, List.mem_flatMap]; exact ⟨f, hf, h⟩⟩

theorem mem_specNonCastle (wf : Wf g b) (sm : Spec.SMove) :
    sm ∈ specNonCastle (Spec.abs g) ↔
      ∃ X f, ownP g.white X ∧ f < 64 ∧ b f = some X ∧ sm ∈ Spec.pieceMoves (Spec.abs g) f (pieceOf X) := by
  unfold specNonCastle
  rw [List.mem_flatMap]
  constructor
  · rintro ⟨s, hs, hsm⟩
    have hs64 := List.mem_range.1 hs
    rw [abs_at wf s hs64] at hsm
    cases hb : b s with
    | none => rw [hb] at hsm; exact absurd hsm (by simp)
    | some X =>
      rw [hb] at hsm
      simp only [Option.map_some] at hsm
      have hX12 := wf.ok.valid s X hs64 hb
      split at hsm
      · rename_i hcol
        exact ⟨X, s, (pieceOf_white X g.white hX12).1 hcol, hs64, hb, hsm⟩
      · exact absurd hsm (by simp)
  · rintro ⟨X, f, hX, hf, hb, hsm⟩
    refine ⟨f, List.mem_range.2 hf, ?_⟩
    rw [abs_at wf f hf, hb]
    simp only [Option.map_some]
    have hcol : ((pieceOf X).white == (Spec.abs g).white) = true := (pieceOf_white X g.white (ownP_lt hX)).2 hX
    rw [if_pos hcol]; exact hsm

theorem inner_refines (wf : Wf g b) {X f : Nat} (hX : ownP g.white X) (hf : f < 64) (hb : b f = some X) (sm : Spec.SMove) :
    sm ∈ Spec.pieceMoves (Spec.abs g) f (pieceOf X) ↔ ∃ m ∈ innerOf g X f, smove m = sm := by
  by_cases hp : X = (if g.white then WP else BP)
  · subst hp
    rw [pieceOf_pawn_ite, innerOf_pawn]
    exact pawn_refines wf f (wf.pawn_row hf hb) sm
  · rw [innerOf_piece g X f hp]
    exact piece_refines wf X f hX (pieceOf_nonpawn g.white X hX hp) hf sm

theorem nonCastle_refines (wf : Wf g b) (sm : Spec.SMove) :
    sm ∈ specNonCastle (Spec.abs g) ↔ ∃ m ∈ genNonCastle g, smove m = sm := by
  rw [mem_specNonCastle wf]
  constructor
  · rintro ⟨X, f, hX, hf, hb, hsm⟩
    obtain ⟨m, hm, hs⟩ := (inner_refines wf hX hf hb sm).1 hsm
    exact ⟨m, (mem_genNonCastle wf m).2 ⟨X, f, hX, hf, hb, hm⟩, hs⟩
  · rintro ⟨m, hm, hs⟩
    obtain ⟨X, f, hX, hf, hb, hin⟩ := (mem_genNonCastle wf m).1 hm
    exact ⟨X, f, hX, hf, hb, (inner_refines wf hX hf hb sm).2 ⟨m, hin, hs⟩⟩

end nc

end Jence
