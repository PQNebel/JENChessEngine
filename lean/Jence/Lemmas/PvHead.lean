/-
  Which part of the triangular PV table a node may write, and what stands at its head. A node at ply `p` writes row `p`,
  its subtree the rows above: rows below `p` are untouched by everything the node does (`OwnRows`); the capture search
  writes none. Hence the head `pv_table[0][0]`, what `bestmove` prints, is written only by `insert_pv_node` in the root's
  own move loop: it is always the null move or a generated root move that survived `make`.
-/
import Jence.Lemmas.Frame
namespace Jence
open Jence

/-- rows below `p` (and their lengths) are untouched -/
def RowLocal (e e' : Env) (p : Nat) : Prop :=
  (∀ i, i < p * 64 → e'.pv.getD i Move.null = e.pv.getD i Move.null) ∧ (∀ q, q < p → e'.pvLen.getD q 0 = e.pvLen.getD q 0)

theorem RowLocal.refl (e : Env) (p : Nat) : RowLocal e e p := ⟨fun _ _ => rfl, fun _ _ => rfl⟩

theorem RowLocal.trans {a b c : Env} {p : Nat} (h1 : RowLocal a b p) (h2 : RowLocal b c p) : RowLocal a c p :=
  ⟨fun i hi => (h2.1 i hi).trans (h1.1 i hi), fun q hq => (h2.2 q hq).trans (h1.2 q hq)⟩

theorem RowLocal.mono {a b : Env} {p q : Nat} (h : RowLocal a b p) (hq : q ≤ p) : RowLocal a b q :=
  ⟨fun i hi => h.1 i (by have : q * 64 ≤ p * 64 := Nat.mul_le_mul_right 64 hq; omega), fun r hr => h.2 r (by omega)⟩

/-- a frame restores the ply and writes no row of the PV table below its own -/
def OwnRows (e e' : Env) : Prop := e'.ply = e.ply ∧ RowLocal e e' e.ply

theorem OwnRows.of_same {e e' : Env} (h0 : e'.ply = e.ply) (h1 : e'.pv = e.pv) (h2 : e'.pvLen = e.pvLen) : OwnRows e e' :=
  ⟨h0, fun _ _ => by rw [h1], fun _ _ => by rw [h2]⟩

theorem ownRows_steps (P : Prop) : Steps P OwnRows where
  refl e := ⟨rfl, .refl e _⟩
  trans h1 h2 := ⟨h2.1.trans h1.1, h1.2.trans (h1.1 ▸ h2.2)⟩
  ghost _ _ _ _ _ := .of_same rfl rfl rfl
  pollRun _ _ _ _ _ _ _ _ _ _ _ := .of_same rfl rfl rfl
  count _ _ := .of_same rfl rfl rfl
  flags _ _ _ := .of_same rfl rfl rfl
  pushPop e k e2 hp h := ⟨(plyEq_steps P).pushPop e k e2 hp h.1, h.2.mono (Nat.le_succ _)⟩
  pvLen e := ⟨rfl, fun _ _ => rfl, fun q hq => by rw [getD_setIfInBounds, if_neg (by omega)]⟩
  ttHit _ := .of_same rfl rfl rfl
  child e k e2 hp h := ⟨(plyEq_steps P).child e k e2 hp h.1, h.2.mono (Nat.le_succ _)⟩
  null e e2 hp h := ⟨(plyEq_steps P).null e e2 hp h.1, h.2.mono (Nat.le_succ _)⟩
  pv e m _ := ⟨rfl, fun i hi => pvInsert_below _ _ _ _ i (by omega), fun q hq => by rw [pvInsert_len, getD_setIfInBounds, if_neg (by omega)]⟩
  tables _ _ _ _ := .of_same rfl rfl rfl
  record _ _ _ _ _ _ := .of_same rfl rfl rfl
  print _ _ _ := .of_same rfl rfl rfl

theorem pvSame_qsteps (P : Prop) : QSteps P fun e e' => e'.pv = e.pv ∧ e'.pvLen = e.pvLen where
  refl _ := ⟨rfl, rfl⟩
  trans h1 h2 := ⟨h2.1.trans h1.1, h2.2.trans h1.2⟩
  ghost _ _ _ _ _ := ⟨rfl, rfl⟩
  pollRun _ _ _ _ _ _ _ _ _ _ _ := ⟨rfl, rfl⟩
  count _ _ := ⟨rfl, rfl⟩
  flags _ _ _ := ⟨rfl, rfl⟩
  pushPop _ _ _ _ h := h

/-- what `bestmove` may print: nothing yet, or a generated move of the root position that can be made -/
def PvHeadOk (R : Rules) (g : Game) (e : Env) : Prop :=
  e.pvAt 0 0 = Move.null ∨ (e.pvAt 0 0 ∈ R.generate g true ∧ (R.make g (e.pvAt 0 0)).isSome)

theorem PvHeadOk.of_head {R : Rules} {g : Game} {e e' : Env} (h : e'.pvAt 0 0 = e.pvAt 0 0) (hk : PvHeadOk R g e) : PvHeadOk R g e' := by
  unfold PvHeadOk at *; rw [h]; exact hk

theorem PvHeadOk.of_pv {R : Rules} {g : Game} {e e' : Env} (h : e'.pv = e.pv) (hk : PvHeadOk R g e) : PvHeadOk R g e' :=
  hk.of_head (by unfold Env.pvAt; rw [h])

theorem OwnRows.head {e e' : Env} (h : OwnRows e e') (hp : 1 ≤ e.ply) : e'.pvAt 0 0 = e.pvAt 0 0 :=
  h.2.1 0 (by omega)

section walk
variable (R : Rules) (cfg : Cfg)

/-- the second alternative: a table too small to have the cell -/
theorem insertPv_head (e : Env) (m : Move) (hp : e.ply = 0) :
    (e.insertPv cfg m).pvAt 0 0 = m ∨ (e.insertPv cfg m).pvAt 0 0 = e.pvAt 0 0 := by
  rw [insertPv_same, hp]; unfold Env.pvAt; rw [pvInsert_at]
  split
  · exact Or.inl rfl
  · exact Or.inr rfl

theorem raised_head (g : Game) (e : Env) (m : Move) (depth : Nat) (hp : e.ply = 0) (hm : m ∈ R.generate g true)
    (hmk : (R.make g m).isSome) (hk : PvHeadOk R g e) : PvHeadOk R g (e.raised cfg m depth) := by
  have : (e.raised cfg m depth).pvAt 0 0 = (e.insertPv cfg m).pvAt 0 0 := by
    unfold Env.pvAt; rw [(raised_pv_eq cfg e m depth).2.1]
  rcases insertPv_head cfg e m hp with h1 | h1
  · right; rw [this, h1]; exact ⟨hm, hmk⟩
  · exact hk.of_head (this.trans h1)

theorem moveLoop_pvhead (rec : Game → Nat → Int → Int → Env → Int × Env)
    (hrec : ∀ c d a b e, OwnRows e (rec c d a b e).2) (g : Game) (depth nDepth : Nat) (inCheck : Bool) (beta : Int)
    (ms : List Move) (ta : Int) (flag : Flag) (legal searched : Nat) (e : Env) :
      e.ply = 0 → (∀ m ∈ ms, m ∈ R.generate g true) → PvHeadOk R g e →
      PvHeadOk R g (moveLoop R cfg rec g depth nDepth inCheck beta ms ta flag legal searched e).2 := by
  -- the child ran at ply 1 and left the head alone
  have child : ∀ {c : Game} {m : Move} {searched : Nat} {ta s : Int} {e e2 : Env}, e.ply = 0 → PvHeadOk R g e →
      searchChild rec c m searched depth nDepth inCheck ta beta { e with ply := e.ply + 1, rep := (e.rep.insert c.key).moveBack } = (s, e2) →
      ({ e2 with ply := e2.ply - 1 } : Env).ply = 0 ∧ PvHeadOk R g { e2 with ply := e2.ply - 1 } := fun {c m searched ta s e e2} hp hk hsc => by
    have h := searchChild_steps (I := OwnRows) (ownRows_steps False).refl (ownRows_steps False).trans rec hrec c m
      searched depth nDepth inCheck ta beta { e with ply := e.ply + 1, rep := (e.rep.insert c.key).moveBack }
    rw [hsc] at h
    exact ⟨by rw [h.1]; show e.ply + 1 - 1 = 0; omega, hk.of_head (h.head (Nat.le_add_left 1 e.ply))⟩
  fun_induction moveLoop R cfg rec g depth nDepth inCheck beta ms ta flag legal searched e
  -- the cases, in the order of the loop: no move left; `make` fails; stopped after the child; cut-off; the move raises alpha; it does not
  next => exact fun _ _ hk => hk
  next ih => exact fun hp hms => ih hp (fun m h => hms m (List.mem_cons_of_mem _ h))
  next hsc e3 _ => exact fun hp _ hk => (child hp hk hsc).2
  next m ms _ _ _ _ e c hmk e1 s e2 hsc e3 _ _ e4 _ e5 e6 =>
    intro hp hms hk
    obtain ⟨hp3, hk3⟩ := child hp hk hsc
    obtain ⟨_, _, _, _, _, _, h6⟩ := cut_eq cfg e3 g m depth beta
    obtain ⟨_, _, _, _, _, h5⟩ := raised_eq cfg e3 m depth
    exact (raised_head R cfg g e3 m depth hp3 (hms m List.mem_cons_self) (by rw [hmk]; rfl) hk3).of_pv
      (by show (e3.cut cfg g m depth beta).pv = _; rw [h6, h5])
  next m ms _ _ _ _ e c hmk e1 s e2 hsc e3 _ _ e4 _ e5 ih =>
    intro hp hms hk
    obtain ⟨hp3, hk3⟩ := child hp hk hsc
    exact ih ((raised_rep_ply cfg e3 m depth).2.trans hp3) (fun m h => hms m (List.mem_cons_of_mem _ h))
      (raised_head R cfg g e3 m depth hp3 (hms m List.mem_cons_self) (by rw [hmk]; rfl) hk3)
  next hsc e3 _ _ ih =>
    intro hp hms hk
    obtain ⟨hp3, hk3⟩ := child hp hk hsc
    exact ih hp3 (fun m h => hms m (List.mem_cons_of_mem _ h)) hk3

theorem finish_pv_eq (g : Game) (depth : Nat) (inCheck : Bool) (out : LoopOut) (e : Env) :
    (finish cfg g depth inCheck (out, e)).2.pv = e.pv := by
  obtain ⟨_, _, _, _, _, h⟩ := finish_eq cfg g depth inCheck out e; rw [h]

theorem searchMoves_pvhead (rec : Game → Nat → Int → Int → Env → Int × Env)
    (hrec : ∀ c d a b e, OwnRows e (rec c d a b e).2) (g : Game) (depth nDepth : Nat) (inCheck : Bool) (alpha beta : Int)
    (e : Env) (hp : e.ply = 0) (hk : PvHeadOk R g e) :
    PvHeadOk R g (searchMoves R cfg rec g depth nDepth inCheck alpha beta e).2 := by
  obtain ⟨ms, a, b, hperm, h⟩ := searchMoves_eq R cfg rec g depth nDepth inCheck alpha beta e
  rw [h]
  exact (moveLoop_pvhead R cfg rec hrec g depth nDepth inCheck beta ms alpha Flag.alpha 0 0 { e with followPv := a, scorePv := b } hp
    (fun m hm => hperm.mem_iff.1 hm) (hk.of_pv rfl)).of_pv (finish_pv_eq ..)

theorem negamax_root_pvhead (fuel : Nat) (g : Game) (depth : Nat) (alpha beta : Int) (e : Env)
    (hp : e.ply = 0) (hk : PvHeadOk R g e) : PvHeadOk R g (negamax R cfg fuel g depth alpha beta e).2 := by
  cases fuel with
  | zero => exact hk
  | succ fuel =>
    -- at ply 0 there is neither a repetition test, nor a table probe, nor a ply cap, nor a null move
    obtain ⟨dg, n, lg, h⟩ := negamax_succ R cfg fuel g depth alpha beta e
    obtain ⟨po, pl, ch, dg', n', lg', st, ou, de, -, -, h3⟩ := afterProbe_eq R cfg (negamax R cfg fuel) g depth alpha beta { e with digest := dg, events := n, log := lg }
    rw [h, if_neg (by simp [hp]), probeNode_root cfg g depth alpha beta _ hp, if_neg (by decide), h3, if_neg (by rw [hp]; decide)]
    split
    · exact (hk.of_pv (e := e) rfl).of_pv (quiescence_steps (pvSame_qsteps False) False.elim R cfg qFuel g alpha beta _).1
    · unfold expand nullMoveStep
      dsimp only
      rw [if_neg (by simp [hp])]
      exact searchMoves_pvhead R cfg _ (negamax_steps (ownRows_steps False) False.elim R cfg fuel) g depth _ _ alpha beta _ hp
        (hk.of_pv rfl)

theorem idLoop_pvhead (g : Game) (count cur : Nat) (alpha beta score : Int) (e : Env) :
    e.ply = 0 → PvHeadOk R g e → PvHeadOk R g (idLoop R cfg g count cur alpha beta score e).2.2 := by
  have one : ∀ {cur : Nat} {alpha beta s : Int} {e e2 : Env}, e.ply = 0 → PvHeadOk R g e →
      negamax R cfg negaFuel g cur alpha beta { e with followPv := true } = (s, e2) → e2.ply = 0 ∧ PvHeadOk R g e2 :=
    fun {cur alpha beta s e e2} hp hk h => by
      have hh := negamax_root_pvhead R cfg negaFuel g cur alpha beta { e with followPv := true } hp (hk.of_pv rfl)
      have hp1 := negamax_steps (plyEq_steps False) False.elim R cfg negaFuel g cur alpha beta { e with followPv := true }
      rw [h] at hh hp1
      exact ⟨hp1.trans hp, hh⟩
  fun_induction idLoop R cfg g count cur alpha beta score e
  next => exact fun _ hk => hk
  next h _ => exact fun hp hk => (one hp hk h).2
  next h _ _ ih => exact fun hp hk => ih (one hp hk h).1 (one hp hk h).2
  next h _ _ _ ih => exact fun hp hk => ih (one hp hk h).1 ((one hp hk h).2.of_pv rfl)

end walk

theorem fresh_pvhead (R : Rules) (g : Game) (tt : TT) (rep : RepTable) : PvHeadOk R g (Env.fresh tt rep) := by
  left; simp [Env.fresh, Env.pvAt]

end Jence
