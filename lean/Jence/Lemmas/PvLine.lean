/-
  T12.2: the principal variation the search prints is a legal line. Row `p` of the triangular PV table, after a node at
  ply `p` returned a value strictly inside its window, is a sequence of moves each generated in, and accepted from, the
  position reached by its predecessors. Nothing here depends on the history array.
  `LegalLine` is such a sequence, `pvRow e p` the row as a list, `RowOk` the two together. `PvWf` holds the sizes the
  index arithmetic needs; `PvKeep` is what every piece of the search does to the table whatever it returns (`OwnRows`,
  and `PvWf` kept), an instance of the traversal (`pvKeep_steps`). `PvGood` adds the legal row for a value inside the
  window; `RecPv` is the two of the recursive call and `LoopOk` what the move loop leaves, for the walk that ends in
  `negamax_pv`.
-/
import Jence.Lemmas.PvHead
namespace Jence
open Jence

/-- a line of moves, each generated in and made from the position its predecessors lead to -/
def LegalLine (R : Rules) : Game → List Move → Prop
  | _, [] => True
  | g, m :: ms => m ∈ R.generate g true ∧ ∃ g', R.make g m = some g' ∧ LegalLine R g' ms

theorem LegalLine.cons {R : Rules} {g : Game} {m : Move} {ms : List Move} :
    LegalLine R g (m :: ms) ↔ m ∈ R.generate g true ∧ ∃ g', R.make g m = some g' ∧ LegalLine R g' ms := Iff.rfl

/-- row `p` of the PV table: columns `p .. pvLen[p] - 1` -/
def pvRow (e : Env) (p : Nat) : List Move := (List.range (e.pvLen.getD p 0 - p)).map fun i => e.pvAt p (p + i)

theorem pvRow_succ (e : Env) {p : Nat} (h : p < e.pvLen.getD p 0) :
    pvRow e p = e.pvAt p p :: (List.range (e.pvLen.getD p 0 - (p + 1))).map fun i => e.pvAt p (p + (i + 1)) := by
  unfold pvRow
  rw [show e.pvLen.getD p 0 - p = (e.pvLen.getD p 0 - (p + 1)) + 1 by omega, List.range_succ_eq_map, List.map_cons, List.map_map]
  rfl

/-- the sizes the index arithmetic of the PV table relies on: 64 × 64 cells, 64 row lengths, none above 64 -/
structure PvWf (e : Env) : Prop where
  pvSize : e.pv.size = 4096
  lenSize : e.pvLen.size = 64
  lenLe : ∀ q, e.pvLen.getD q 0 ≤ 64

theorem PvWf.fresh (tt : TT) (rep : RepTable) : PvWf (Env.fresh tt rep) := by
  refine ⟨by simp [Env.fresh], by simp [Env.fresh], fun q => ?_⟩
  simp only [Env.fresh]
  by_cases hq : q < 64
  · simp [Array.getD_eq_getD_getElem?, hq]
  · simp [Array.getD_eq_getD_getElem?, hq]

/-- row `p` is a legal line from `g` (and its length field is sane) -/
def RowOk (R : Rules) (g : Game) (e : Env) (p : Nat) : Prop := p ≤ e.pvLen.getD p 0 ∧ LegalLine R g (pvRow e p)

theorem pvRow_local {e e' : Env} {p r : Nat} (h : RowLocal e e' p) (hr : r < p) (hle : e.pvLen.getD r 0 ≤ 64) : pvRow e' r = pvRow e r := by
  unfold pvRow
  rw [h.2 r hr]
  apply List.map_congr_left
  intro i hi
  rw [List.mem_range] at hi
  unfold Env.pvAt
  apply h.1
  omega

theorem PvWf.of_same {e e' : Env} (h1 : e'.pv = e.pv) (h2 : e'.pvLen = e.pvLen) (wf : PvWf e) : PvWf e' :=
  ⟨by rw [h1]; exact wf.pvSize, by rw [h2]; exact wf.lenSize, fun q => by rw [h2]; exact wf.lenLe q⟩

theorem PvWf.print {e : Env} (wf : PvWf e) (l : String) : PvWf (e.print l) := wf.of_same (e := e) rfl rfl

/-- resetting the row of the current ply to the empty line -/
theorem pvLenReset_wf (e : Env) (wf : PvWf e) : PvWf { e with pvLen := e.pvLen.setIfInBounds e.ply e.ply } :=
  ⟨wf.pvSize, by rw [Array.size_setIfInBounds]; exact wf.lenSize, fun q => by
    rw [getD_setIfInBounds]; split
    · rename_i h; have := wf.lenSize; omega
    · exact wf.lenLe q⟩

theorem pvWf_steps (P : Prop) : Steps P fun e e' => PvWf e → PvWf e' where
  refl _ := id
  trans h1 h2 := h2 ∘ h1
  ghost _ _ _ _ _ := .of_same rfl rfl
  pollRun _ _ _ _ _ _ _ _ _ _ _ := .of_same rfl rfl
  count _ _ := .of_same rfl rfl
  flags _ _ _ := .of_same rfl rfl
  pushPop e _ e2 _ h wf := .of_same (e := e2) rfl rfl (h (.of_same (e := e) rfl rfl wf))
  pvLen := pvLenReset_wf
  ttHit _ := .of_same rfl rfl
  child e _ e2 _ h wf := .of_same (e := e2) rfl rfl (h (.of_same (e := e) rfl rfl wf))
  null e e2 _ h wf := .of_same (e := e2) rfl rfl (h (.of_same (e := e) rfl rfl wf))
  pv e m _ wf := by
    refine ⟨?_, ?_, fun q => ?_⟩ <;> dsimp only
    · rw [pvInsert_size]; exact wf.pvSize
    · rw [pvInsert_len, Array.size_setIfInBounds]; exact wf.lenSize
    · rw [pvInsert_len, getD_setIfInBounds]
      split
      · exact wf.lenLe _
      · exact wf.lenLe q
  tables _ _ _ _ := .of_same rfl rfl
  record _ _ _ _ _ _ := .of_same rfl rfl
  print _ _ _ := .of_same rfl rfl

/-- what any piece of the search does to the PV table, whatever it returns -/
def PvKeep (e e' : Env) : Prop := OwnRows e e' ∧ (PvWf e → PvWf e')

theorem pvKeep_steps (P : Prop) : Steps P PvKeep := (ownRows_steps P).and (pvWf_steps P)

theorem PvKeep.ply {e e' : Env} (h : PvKeep e e') : e'.ply = e.ply := h.1.1
theorem PvKeep.loc {e e' : Env} (h : PvKeep e e') : RowLocal e e' e.ply := h.1.2
theorem PvKeep.wf {e e' : Env} (h : PvKeep e e') : PvWf e → PvWf e' := h.2

theorem PvKeep.of_same {e e' : Env} (h0 : e'.ply = e.ply) (h1 : e'.pv = e.pv) (h2 : e'.pvLen = e.pvLen) : PvKeep e e' :=
  ⟨.of_same h0 h1 h2, .of_same h1 h2⟩

theorem PvKeep.refl (e : Env) : PvKeep e e := .of_same rfl rfl rfl

theorem PvKeep.trans {a b c : Env} (h1 : PvKeep a b) (h2 : PvKeep b c) : PvKeep a c :=
  (pvKeep_steps False).trans h1 h2

/-- a call one ply down, seen from this ply: it even leaves this ply's row alone -/
theorem PvKeep.up {e e1 e2 : Env} (hd : e1.ply = e.ply + 1) (h1pv : e1.pv = e.pv) (h1len : e1.pvLen = e.pvLen) (h : PvKeep e1 e2) :
    RowLocal e e2 (e.ply + 1) := by
  have := h.loc; rw [hd] at this
  exact ⟨fun i hi => by rw [this.1 i hi, h1pv], fun q hq => by rw [this.2 q hq, h1len]⟩

theorem RowOk.of_same {R : Rules} {g : Game} {e e' : Env} {p : Nat} (h1 : e'.pv = e.pv) (h2 : e'.pvLen = e.pvLen)
    (h : RowOk R g e p) : RowOk R g e' p := by
  unfold RowOk pvRow Env.pvAt at *; rw [h1, h2]; exact h

theorem RowOk.of_local {R : Rules} {g : Game} {e e' : Env} {p : Nat} (hl : RowLocal e e' (p + 1)) (wf : PvWf e)
    (h : RowOk R g e p) : RowOk R g e' p := by
  unfold RowOk at *
  rw [pvRow_local hl (by omega) (wf.lenLe p), hl.2 p (by omega)]
  exact h

theorem insertPv_row (cfg : Cfg) (e : Env) (m : Move) (wf : PvWf e) (hp : e.ply ≤ 62) (hn1 : e.ply + 1 ≤ e.pvLen.getD (e.ply + 1) 0) :
    pvRow (e.insertPv cfg m) e.ply = m :: pvRow e (e.ply + 1) ∧ e.ply ≤ (e.insertPv cfg m).pvLen.getD e.ply 0 := by
  have hn2 := wf.lenLe (e.ply + 1)
  have hget := pvInsert_getD e.pv e.pvLen e.ply m wf.pvSize hp hn2
  have hlen : (e.insertPv cfg m).pvLen.getD e.ply 0 = e.pvLen.getD (e.ply + 1) 0 := by
    rw [insertPv_same]; show (Env.pvInsert e.pv e.pvLen e.ply m).2.getD e.ply 0 = _
    rw [pvInsert_len, getD_setIfInBounds, if_pos ⟨rfl, by rw [wf.lenSize]; omega⟩]
  refine ⟨?_, by rw [hlen]; omega⟩
  rw [pvRow_succ _ (by rw [hlen]; omega), hlen]
  unfold pvRow Env.pvAt
  rw [show (e.insertPv cfg m).pv = (Env.pvInsert e.pv e.pvLen e.ply m).1 by rw [insertPv_same]]
  generalize e.pvLen.getD (e.ply + 1) 0 = n at hn1 hn2 hget
  refine congr (congrArg List.cons ?_) (List.map_congr_left fun i hi => ?_)
  · rw [hget, if_pos rfl]
  · rw [List.mem_range] at hi
    rw [hget, if_neg (by omega), if_pos (by omega)]
    exact congrArg (e.pv.getD · Move.null) (by omega)

theorem pvLenReset_row (R : Rules) (g : Game) (e : Env) (wf : PvWf e) (hp : e.ply ≤ 63) :
    RowOk R g { e with pvLen := e.pvLen.setIfInBounds e.ply e.ply } e.ply := by
  unfold RowOk pvRow
  rw [getD_setIfInBounds, if_pos ⟨rfl, by rw [wf.lenSize]; omega⟩, Nat.sub_self]
  exact ⟨Nat.le_refl _, trivial⟩

/-- a value strictly inside the window comes with a legal row -/
def PvGood (R : Rules) (g : Game) (a b : Int) (e : Env) (r : Int × Env) : Prop :=
  PvWf e → r.2.stopping = false → a < r.1 → r.1 < b → RowOk R g r.2 e.ply

/-- what the recursive call is known to do to the PV table: `PvKeep` always, a legal row when its value lies inside its window -/
def RecPv (R : Rules) (rec : Game → Nat → Int → Int → Env → Int × Env) : Prop :=
  ∀ c d a b e, PvKeep e (rec c d a b e).2 ∧ (e.ply ≤ 63 → PvGood R c a b e (rec c d a b e))

/-- what the move loop leaves: a legal row if it ran to the end; if it returned from inside, the value `beta` or a stopped search -/
def LoopOk (R : Rules) (g : Game) (beta : Int) (p : Nat) (r : LoopOut × Env) : Prop :=
  match r.1 with
  | .done _ _ _ => RowOk R g r.2 p
  | .ret v => r.2.stopping = true ∨ v = beta

theorem searchChild_pv (R : Rules) (rec : Game → Nat → Int → Int → Env → Int × Env) (hpv : RecPv R rec)
    (c : Game) (m : Move) (searched depth nDepth : Nat) (inCheck : Bool) (ta beta : Int) (e : Env) (hp : e.ply ≤ 63) :
    PvGood R c ta beta e (searchChild rec c m searched depth nDepth inCheck ta beta e) := by
  fun_cases searchChild
  next _ s e1 h1 =>
    have := (hpv c (nDepth - 1) (-beta) (-ta) e).2 hp
    rw [h1] at this
    exact fun wf hs a1 a2 => this wf hs (by omega) (by omega)
  next _ s2 e2 h2 _ s1 e1 h1 _ _ s0 e0 h0 =>
    -- the (possibly reduced) first probe, the null-window probe, the full-window re-search
    have k2 : PvKeep e e2 := firstProbe_steps .refl (fun c d a b e => (hpv c d a b e).1) h2
    have k1 := (hpv c (nDepth - 1) (-ta - 1) (-ta) e2).1
    rw [h1] at k1
    have k0 := (hpv c (nDepth - 1) (-beta) (-ta) e1).2 (by rw [k1.ply, k2.ply]; exact hp)
    rw [h0] at k0
    intro wf hs a1 a2
    have := k0 (k1.wf (k2.wf wf)) hs (by omega) (by omega)
    rw [k1.ply, k2.ply] at this; exact this
  next hout => exact fun _ _ a1 a2 => absurd (by simp only [Bool.and_eq_true, decide_eq_true_eq]; exact ⟨a1, a2⟩) hout
  next hle => exact fun _ _ a1 _ => absurd a1 hle

theorem child_pv (R : Rules) (rec : Game → Nat → Int → Int → Env → Int × Env) (hpv : RecPv R rec)
    {c : Game} {m : Move}
    {searched depth nDepth : Nat} {inCheck : Bool} {ta beta s : Int} (e : Env) (k : RepTable) {e2 : Env} (hp : e.ply ≤ 62)
    (h : searchChild rec c m searched depth nDepth inCheck ta beta { e with ply := e.ply + 1, rep := k } = (s, e2)) :
    PvKeep e { e2 with ply := e2.ply - 1 } ∧ RowLocal e { e2 with ply := e2.ply - 1 } (e.ply + 1) ∧
    (PvWf e → e2.stopping = false → ta < s → s < beta → RowOk R c { e2 with ply := e2.ply - 1 } (e.ply + 1)) := by
  have kc := searchChild_steps (I := PvKeep) .refl .trans rec (fun c d a b e => (hpv c d a b e).1) c m searched depth nDepth inCheck ta beta
    { e with ply := e.ply + 1, rep := k }
  have hr := searchChild_pv R rec hpv c m searched depth nDepth inCheck ta beta { e with ply := e.ply + 1, rep := k } (by show e.ply + 1 ≤ 63; omega)
  rw [h] at kc hr
  have hl := PvKeep.up (e := e) (e1 := { e with ply := e.ply + 1, rep := k }) rfl rfl rfl kc
  exact ⟨⟨⟨by rw [kc.ply]; rfl, hl.mono (Nat.le_succ _)⟩, fun wf => .of_same (e := e2) rfl rfl (kc.wf (.of_same (e := e) rfl rfl wf))⟩, hl,
    fun wf => hr (.of_same (e := e) rfl rfl wf)⟩

theorem moveLoop_pv (R : Rules) (cfg : Cfg) (rec : Game → Nat → Int → Int → Env → Int × Env) (hpv : RecPv R rec)
    (g : Game) (depth nDepth : Nat) (inCheck : Bool) (beta : Int) (ms : List Move) (ta : Int) (flag : Flag)
    (legal searched : Nat) (e : Env) :
    e.ply ≤ 62 → (∀ m ∈ ms, m ∈ R.generate g true) → PvWf e → RowOk R g e e.ply →
    LoopOk R g beta e.ply (moveLoop R cfg rec g depth nDepth inCheck beta ms ta flag legal searched e) := by
  fun_induction moveLoop R cfg rec g depth nDepth inCheck beta ms ta flag legal searched e
  -- the cases, in the order of the loop: no move left; `make` fails; stopped after the child; cut-off; the move raises alpha; it does not
  next => exact fun _ _ _ h => h
  next ih => exact fun hp hms => ih hp (fun m h => hms m (List.mem_cons_of_mem _ h))
  next hstop => exact fun _ _ _ _ => Or.inl hstop
  next => exact fun _ _ _ _ => Or.inr rfl
  next m ms ta _ legal searched e c hmk e1 s e2 hsc e3 hrun hgt e4 hlt e5 ih =>
    -- the move raises alpha: its row becomes `m` followed by the child's row
    intro hp hms wf _
    obtain ⟨k3, _, hrow2⟩ := child_pv R rec hpv e _ hp hsc
    have k4 : PvKeep e3 e4 := (pvKeep_steps False).insertPv cfg e3 m (by simpa using hrun)
    have h5 : e5.ply = e4.ply ∧ e5.pv = e4.pv ∧ e5.pvLen = e4.pvLen := raised_pv_eq cfg e3 m depth
    have k5 : PvKeep e e5 := (k3.trans k4).trans (.of_same h5.1 h5.2.1 h5.2.2)
    have hchild := hrow2 wf (by simpa using hrun) hgt (by omega)
    rw [← k3.ply] at hchild
    obtain ⟨r1, r2⟩ := insertPv_row cfg e3 m (k3.wf wf) (by rw [k3.ply]; exact hp) hchild.1
    have := ih (by rw [k5.ply]; exact hp) (fun m h => hms m (List.mem_cons_of_mem _ h)) (k5.wf wf) (by
      rw [h5.1, k4.ply]
      exact RowOk.of_same h5.2.1 h5.2.2 ⟨r2, by rw [r1]; exact LegalLine.cons.2 ⟨hms m List.mem_cons_self, c, hmk, hchild.2⟩⟩)
    rw [k5.ply] at this; exact this
  next m ms ta _ _ _ e c _ e1 s e2 hsc e3 _ _ ih =>
    intro hp hms wf hrow
    obtain ⟨k3, hl, _⟩ := child_pv R rec hpv e _ hp hsc
    have := ih (by rw [k3.ply]; exact hp) (fun m h => hms m (List.mem_cons_of_mem _ h)) (k3.wf wf)
      (by rw [k3.ply]; exact RowOk.of_local hl wf hrow)
    rw [k3.ply] at this; exact this

theorem nullMoveStep_pv (R : Rules) (rec : Game → Nat → Int → Int → Env → Int × Env) (hpv : RecPv R rec)
    (g : Game) (nDepth : Nat) (inCheck : Bool) (beta : Int) (e : Env) :
    RowLocal e (nullMoveStep R rec g nDepth inCheck beta e).2 (e.ply + 1) ∧
    (∀ v, (nullMoveStep R rec g nDepth inCheck beta e).1 = some v →
      (nullMoveStep R rec g nDepth inCheck beta e).2.stopping = true ∨ v = beta) := by
  have key : ∀ {s : Int} {e2 : Env}, rec (R.nullMove g) (nDepth - 1 - 2) (-beta) (-beta + 1) { e with ply := e.ply + 1 } = (s, e2) →
      RowLocal e { e2 with ply := e2.ply - 1 } (e.ply + 1) := fun {_ e2} h => by
    have k := (hpv (R.nullMove g) (nDepth - 1 - 2) (-beta) (-beta + 1) { e with ply := e.ply + 1 }).1
    rw [h] at k
    exact (PvKeep.up (e := e) (e1 := { e with ply := e.ply + 1 }) rfl rfl rfl k : RowLocal e e2 (e.ply + 1))
  -- the cases: stopped after the null search; it fails high; it does not; no null move tried
  fun_cases nullMoveStep
  next _ _ _ _ _ h _ hst => exact ⟨key h, fun _ _ => Or.inl hst⟩
  next _ _ _ _ _ h _ _ _ _ => exact ⟨key h, fun v hv => Or.inr (Option.some.inj hv).symm⟩
  next _ _ _ _ _ h _ _ _ _ => exact ⟨key h, fun v hv => absurd hv (by simp)⟩
  next => exact ⟨.refl e _, fun v hv => absurd hv (by simp)⟩

theorem searchMoves_pv (R : Rules) (cfg : Cfg) (rec : Game → Nat → Int → Int → Env → Int × Env) (hpv : RecPv R rec)
    (g : Game) (depth nDepth : Nat) (inCheck : Bool) (alpha beta : Int) (e : Env) (hp : e.ply ≤ 62) :
    PvWf e → RowOk R g e e.ply → (searchMoves R cfg rec g depth nDepth inCheck alpha beta e).2.stopping = false →
      (searchMoves R cfg rec g depth nDepth inCheck alpha beta e).1 < beta →
      RowOk R g (searchMoves R cfg rec g depth nDepth inCheck alpha beta e).2 e.ply := by
  obtain ⟨ms, a, b, hperm, h⟩ := searchMoves_eq R cfg rec g depth nDepth inCheck alpha beta e
  rw [h]
  have hloop := moveLoop_pv R cfg rec hpv g depth nDepth inCheck beta ms alpha Flag.alpha 0 0 { e with followPv := a, scorePv := b } hp
    (fun m hm => hperm.mem_iff.1 hm)
  generalize moveLoop R cfg rec g depth nDepth inCheck beta ms alpha Flag.alpha 0 0 { e with followPv := a, scorePv := b } = lo at hloop
  obtain ⟨out, e3⟩ := lo
  obtain ⟨_, _, _, _, _, hf⟩ := finish_eq cfg g depth inCheck out e3
  intro wf hrow hs hv
  have hl := hloop (wf.of_same (e := e) rfl rfl) (RowOk.of_same (e := e) rfl rfl hrow)
  cases out with
  | ret v =>
    -- a value returned from inside the loop is `beta`, or the search was stopped
    rcases hl with h | h
    · rw [show (finish cfg g depth inCheck (LoopOut.ret v, e3)).2.stopping = e3.stopping from rfl, h] at hs; exact absurd hs (by simp)
    · exact absurd hv (by show ¬ v < beta; omega)
  | done ta flag legal => rw [hf]; exact RowOk.of_same rfl rfl hl

theorem expand_pv (R : Rules) (cfg : Cfg) (rec : Game → Nat → Int → Int → Env → Int × Env) (hpv : RecPv R rec)
    (g : Game) (depth : Nat) (alpha beta : Int) (e : Env) (hp : e.ply ≤ 62) :
    PvWf e → RowOk R g e e.ply → (expand R cfg rec g depth alpha beta e).2.stopping = false → (expand R cfg rec g depth alpha beta e).1 < beta →
      RowOk R g (expand R cfg rec g depth alpha beta e).2 e.ply := by
  unfold expand
  dsimp only
  generalize (if R.inCheck g = true then depth + 1 else depth) = nDepth
  have k5 := (PvKeep.of_same (e := e) (e' := { e with nodes := e.nodes + 1 }) rfl rfl rfl).trans
    (nullMoveStep_steps (pvKeep_steps False) R rec (fun c d a b e => (hpv c d a b e).1) g nDepth (R.inCheck g) beta _ False.elim)
  obtain ⟨n2, n3⟩ := nullMoveStep_pv R rec hpv g nDepth (R.inCheck g) beta { e with nodes := e.nodes + 1 }
  generalize nullMoveStep R rec g nDepth (R.inCheck g) beta { e with nodes := e.nodes + 1 } = nm at k5 n2 n3
  obtain ⟨ov, e5⟩ := nm
  cases ov with
  | some v =>
    intro _ _ hs hv
    rcases n3 v rfl with h | h
    · rw [show e5.stopping = true from h] at hs; exact absurd hs (by simp)
    · exact absurd hv (by show ¬ v < beta; omega)
  | none =>
    have s2 := searchMoves_pv R cfg rec hpv g depth nDepth (R.inCheck g) alpha beta e5 (by rw [k5.ply]; exact hp)
    rw [k5.ply] at s2
    exact fun wf hrow => s2 (k5.wf wf) (RowOk.of_local (e := e) n2 wf hrow)

theorem afterProbe_pv (R : Rules) (cfg : Cfg) (rec : Game → Nat → Int → Int → Env → Int × Env) (hpv : RecPv R rec)
    (g : Game) (depth : Nat) (alpha beta : Int) (e : Env) (hp : e.ply ≤ 63) :
    PvWf e → (afterProbe R cfg rec g depth alpha beta e).2.stopping = false → (afterProbe R cfg rec g depth alpha beta e).1 < beta →
      RowOk R g (afterProbe R cfg rec g depth alpha beta e).2 e.ply := by
  have K := pvKeep_steps False
  have hrow2 := fun wf => pvLenReset_row R g e wf hp
  fun_cases afterProbe
  next e2 _ => exact fun wf _ _ => hrow2 wf
  all_goals
    rename_i e2 hcap e3 _
    have hrow3 : PvWf e → RowOk R g e3 e.ply := fun wf => by
      show RowOk R g (e2.maybePoll cfg) e.ply; rw [maybePoll_same]; exact RowOk.of_same rfl rfl (hrow2 wf)
  · have kq := quiescence_steps (pvSame_qsteps False) False.elim R cfg qFuel g alpha beta e3
    exact fun wf _ _ => RowOk.of_same kq.1 kq.2 (hrow3 wf)
  · have k3 : PvKeep e e3 := K.trans (K.pvLen e) (K.poll cfg e2)
    have hp3 : e3.ply ≤ 62 := by
      rw [k3.ply]
      have hc2 : ¬ (e.ply ≥ Gen.MAX_PLY - 1) := hcap
      have h63 : Gen.MAX_PLY - 1 = 63 := by decide
      omega
    have x2 := expand_pv R cfg rec hpv g depth alpha beta e3 hp3
    rw [k3.ply] at x2
    exact fun wf => x2 (k3.wf wf) (hrow3 wf)

theorem repReturn_pv (R : Rules) (cfg : Cfg) (g : Game) (e : Env) (hp : e.ply ≤ 63) (wf : PvWf e) :
    RowOk R g (repReturn cfg g e).2 e.ply := by
  obtain ⟨_, _, _, h⟩ := repReturn_eq cfg g e
  rw [h]
  exact RowOk.of_same rfl rfl (pvLenReset_row R g e wf hp)

/-- **the PV invariant of `negamax`**: rows below the node's ply are untouched, and when the value lies strictly inside
    the window (and the search was not stopped) the node's row is a legal line from the node's position -/
theorem negamax_pv (R : Rules) (cfg : Cfg) : ∀ fuel, RecPv R (negamax R cfg fuel) := by
  intro fuel
  induction fuel with
  | zero => exact fun g d a b e => ⟨.refl e, fun _ _ _ h1 _ => absurd h1 (by simp only [negamax]; omega)⟩
  | succ fuel ih =>
    intro g depth alpha beta e
    refine ⟨negamax_steps (pvKeep_steps False) False.elim R cfg (fuel + 1) g depth alpha beta e, fun hp => ?_⟩
    obtain ⟨dg, n, lg, h⟩ := negamax_succ R cfg fuel g depth alpha beta e
    rw [h]
    split
    · exact fun wf _ _ _ => repReturn_pv R cfg g _ hp (wf.of_same (e := e) rfl rfl)
    · split
      · -- table hit: only at null-window nodes, whose window has no interior
        rename_i hprobe
        have hwin : ¬ (beta - alpha > 1) := fun hw => by rw [probeNode_pv cfg g depth alpha beta e hw] at hprobe; exact absurd hprobe (by decide)
        exact fun _ _ h1 h2 => absurd hwin (by rw [show (ttReturn cfg g _ _).1 = _ from rfl] at h1 h2; omega)
      · exact fun wf hs _ h2 => afterProbe_pv R cfg _ ih g depth alpha beta _ hp (wf.of_same (e := e) rfl rfl) hs h2
end Jence
