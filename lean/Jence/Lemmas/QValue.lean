/-
  T19.1: `quiescence` returns a sound alpha-beta answer for the minimax value of the capture tree (stand-pat, captures
  only, ply cap, half-move cut-off), whatever the move ordering, the poll schedule and the environment. `Sound v V a b` is what an
  alpha-beta search owes: `v` is `V` strictly inside the window `(a, b)` and a bound of it on the reported side outside.
-/
import Jence.Lemmas.Steps
namespace Jence
open Jence

/-- fail-hard clamp -/
def clamp (v a b : Int) : Int := if v ≤ a then a else if v ≥ b then b else v

/-- fail low: an upper bound of `V`; fail high: a lower bound; strictly inside the window: `V` itself -/
def Sound (v V a b : Int) : Prop := (v ≤ a → V ≤ v) ∧ (v ≥ b → V ≥ v) ∧ (a < v → v < b → V = v)

/-- the weaker reading: the answer lies on the same side of the window as the value, and equals it inside -/
def Agree (v V a b : Int) : Prop := (V ≤ a → v ≤ a) ∧ (V ≥ b → v ≥ b) ∧ (a < V → V < b → v = V)

theorem Sound.agree {v V a b : Int} (h : Sound v V a b) : Agree v V a b := by
  unfold Sound at h; unfold Agree; omega

theorem Sound.self (V a b : Int) : Sound V V a b := ⟨fun _ => Int.le_refl _, fun _ => Int.le_refl _, fun _ _ => rfl⟩

/-- the child's answer, seen from the parent -/
theorem Sound.neg {s V a b : Int} (h : Sound s V a b) : Sound (-s) (-V) (-b) (-a) :=
  ⟨fun h1 => by have := h.2.1 (by omega); omega, fun h1 => by have := h.1 (by omega); omega,
   fun h1 h2 => by have := h.2.2 (by omega) (by omega); omega⟩

theorem Sound.of_null {v V a b : Int} (h : Sound v V a (a + 1)) (hab : a < b) (hout : ¬ (v > a ∧ v < b)) : Sound v V a b :=
  ⟨h.1, fun hb => h.2.1 (by omega), fun h1 h2 => absurd ⟨h1, h2⟩ hout⟩

theorem Sound.lower {v V a b : Int} (h : Sound v V a b) (hlo : a < v) : v ≤ V := by
  by_cases hb : v ≥ b
  · exact h.2.1 hb
  · exact Int.le_of_eq (h.2.2 hlo (by omega)).symm
theorem Sound.upper {v V a b : Int} (h : Sound v V a b) (hhi : v < b) : V ≤ v := by
  by_cases ha : v ≤ a
  · exact h.1 ha
  · exact Int.le_of_eq (h.2.2 (by omega) hhi)

theorem Sound.clamp (V : Int) {a b : Int} (hab : a < b) : Sound (min b (max a V)) V a b :=
  ⟨fun h => by omega, fun h => by omega, fun h1 h2 => by omega⟩

theorem Sound.high {V a b : Int} (hab : a < b) (h : b ≤ V) : Sound b V a b :=
  ⟨fun h1 => absurd h1 (Int.not_le.2 hab), fun _ => h, fun _ h2 => absurd h2 (Int.lt_irrefl b)⟩

/-- best value over the moves of `ms` that can be made, starting from `init`: `max` over `−V child` -/
def bestOf (R : Rules) (V : Game → Int) (g : Game) (ms : List Move) (init : Int) : Int :=
  ms.foldl (fun b m => match R.make g m with | none => b | some c => max b (-(V c))) init

theorem bestOf_nil (R : Rules) (V : Game → Int) (g : Game) (init : Int) : bestOf R V g [] init = init := rfl

/-- the negated values of the children that can be made, in list order: `bestOf` is their running maximum,
    `maxChild` (Lemmas/NVal) their maximum, `madeCount` their number -/
def childVals (R : Rules) (V : Game → Int) (g : Game) (ms : List Move) : List Int :=
  (ms.filterMap (R.make g)).map fun c => -(V c)

theorem mem_childVals {R : Rules} {V : Game → Int} {g : Game} {ms : List Move} {v : Int} :
    v ∈ childVals R V g ms ↔ ∃ m ∈ ms, ∃ c, R.make g m = some c ∧ -(V c) = v := by
  simp only [childVals, List.mem_map, List.mem_filterMap]
  exact ⟨fun ⟨c, ⟨m, hm, hc⟩, hv⟩ => ⟨m, hm, c, hc, hv⟩, fun ⟨m, hm, c, hc, hv⟩ => ⟨c, ⟨m, hm, hc⟩, hv⟩⟩

section children
variable (R : Rules) (V : Game → Int) (g : Game)

theorem bestOf_cons_none (m : Move) (ms : List Move) (init : Int)
    (h : R.make g m = none) : bestOf R V g (m :: ms) init = bestOf R V g ms init := by
  simp only [bestOf, List.foldl_cons, h]

theorem bestOf_cons_some (m : Move) (ms : List Move) (init : Int) (c : Game)
    (h : R.make g m = some c) : bestOf R V g (m :: ms) init = bestOf R V g ms (max init (-(V c))) := by
  simp only [bestOf, List.foldl_cons, h]

theorem childVals_cons (m : Move) (ms : List Move) :
    childVals R V g (m :: ms) = match R.make g m with | none => childVals R V g ms | some c => -(V c) :: childVals R V g ms := by
  unfold childVals
  rw [List.filterMap_cons]
  cases R.make g m <;> rfl

theorem childVals_perm (l₁ l₂ : List Move) (h : l₁.Perm l₂) :
    (childVals R V g l₁).Perm (childVals R V g l₂) := (h.filterMap _).map _

theorem bestOf_eq (ms : List Move) (init : Int) :
    bestOf R V g ms init = (childVals R V g ms).foldl max init := by
  unfold bestOf childVals
  rw [List.foldl_map, List.foldl_filterMap]
  congr
  funext b m
  cases R.make g m <;> rfl

theorem bestOf_ge (ms : List Move) (init : Int) : init ≤ bestOf R V g ms init := by
  rw [bestOf_eq, List.foldl_max]
  exact Int.le_max_left _ _

theorem bestOf_max (ms : List Move) (a b : Int) :
    bestOf R V g ms (max a b) = max a (bestOf R V g ms b) := by
  rw [bestOf_eq, bestOf_eq, List.foldl_assoc]

end children

theorem bestOf_perm (R : Rules) (V : Game → Int) (g : Game) (l₁ l₂ : List Move) (h : l₁.Perm l₂) (init : Int) :
    bestOf R V g l₁ init = bestOf R V g l₂ init := by
  rw [bestOf_eq, bestOf_eq]
  exact (childVals_perm R V g _ _ h).foldl_eq' (fun x _ y _ z => by rw [Int.max_assoc, Int.max_comm x y, ← Int.max_assoc]) init

/-- the minimax value of the capture tree at `ply` (own fuel, mirroring the recursion of `quiescence`; fuel 0 is not reached
    where `quiescence_value` applies, the ply cap comes first) -/
def qVal (R : Rules) : Nat → Game → Nat → Int
  | 0, g, _ => R.evaluate g
  | fuel + 1, g, ply =>
    let ev := R.evaluate g
    if ply > Gen.MAX_PLY - 1 || g.halfMoves == 100 then ev
    else bestOf R (fun c => qVal R fuel c (ply + 1)) g (R.generate g false) ev

theorem qLoop_value (R : Rules) (rec : Game → Int → Int → Env → Int × Env) (V : Game → Int) (g : Game) (beta : Int) (p : Nat)
    (hply : ∀ c a b e, (rec c a b e).2.ply = e.ply)
    (hrec : ∀ c a b e, a < b → e.ply = p + 1 → Sound (rec c a b e).1 (V c) a b) (ms : List Move) (ta : Int) (e : Env) :
    ta < beta → e.ply = p → (qLoop R rec g beta ms ta e).1 = min beta (bestOf R V g ms ta) := by
  have child : ∀ {c : Game} {ta s : Int} {e e2 : Env}, ta < beta → e.ply = p →
      rec c (-beta) (-ta) { e with rep := e.rep.insert c.key, ply := e.ply + 1 } = (s, e2) →
      Sound (-s) (-(V c)) ta beta ∧ e2.ply - 1 = p := fun {c ta s e e2} hlt hp h => by
    have hv := Sound.neg (hrec c (-beta) (-ta) { e with rep := e.rep.insert c.key, ply := e.ply + 1 } (Int.neg_lt_neg hlt)
      (by show e.ply + 1 = p + 1; rw [hp]))
    have hq := hply c (-beta) (-ta) { e with rep := e.rep.insert c.key, ply := e.ply + 1 }
    rw [h] at hv hq
    exact ⟨by simpa using hv, by rw [show e2.ply = e.ply + 1 from hq]; exact hp⟩
  fun_induction qLoop R rec g beta ms ta e
  next => exact fun hlt _ => (Int.min_eq_right (Int.le_of_lt hlt)).symm
  next m ms ta e hmk ih => rw [bestOf_cons_none R V g m ms ta hmk]; exact ih
  next m ms ta e c hmk e1 s e2 h score e3 hge =>
    -- cut-off
    intro hlt hp
    obtain ⟨hv, _⟩ := child hlt hp h
    rw [bestOf_cons_some R V g m ms ta c hmk]
    exact (Int.min_eq_left (Int.le_trans hge (Int.le_trans (hv.2.1 hge) (Int.le_trans (Int.le_max_right _ _) (bestOf_ge R V g ms _))))).symm
  next m ms ta e c hmk e1 s e2 h score e3 hnge ih =>
    intro hlt hp
    obtain ⟨hv, hp3⟩ := child hlt hp h
    rw [bestOf_cons_some R V g m ms ta c hmk]
    by_cases hgt : score > ta
    · rw [if_pos hgt] at ih ⊢
      have hlt' : score < beta := Int.lt_of_not_ge hnge
      rw [show max ta (-(V c)) = score by rw [hv.2.2 hgt hlt']; exact Int.max_eq_right (Int.le_of_lt hgt)]
      exact ih hlt' hp3
    · rw [if_neg hgt] at ih ⊢
      have hle : score ≤ ta := Int.not_lt.1 hgt
      rw [show max ta (-(V c)) = ta from Int.max_eq_left (Int.le_trans (hv.1 hle) hle)]
      exact ih hlt hp3

/-- the stand-pat value raises alpha -/
theorem ite_gt_eq_max (a v : Int) : (if v > a then v else a) = max a v := by split <;> omega

theorem clamp_max (ev M a b : Int) (hab : a < b) : min b (max a (max ev M)) = clamp (max ev M) a b := by
  unfold clamp; split <;> (try split) <;> omega

/-- the fuel `negamax` hands to `quiescence` meets the fuel hypothesis of `quiescence_value` at every ply -/
theorem qFuel_room (ply : Nat) : ply + qFuel ≥ Gen.MAX_PLY + 1 := by unfold qFuel; omega

/-- **T19.1** What `quiescence` returns is a sound answer for the capture-tree minimax value `qVal` and its window: the
    value itself when strictly inside `(alpha, beta)`, an upper bound of it when at most `alpha`, a lower bound when at
    least `beta` - for every rules instance, poll schedule and environment contents (killers, history scores, PV: they
    only reorder the captures) and every window `alpha < beta`. -/
theorem quiescence_value (R : Rules) (cfg : Cfg) :
    ∀ (fuel : Nat) (g : Game) (alpha beta : Int) (e : Env), alpha < beta → e.ply ≤ Gen.MAX_PLY → e.ply + fuel ≥ Gen.MAX_PLY + 1 →
      Sound (quiescence R cfg fuel g alpha beta e).1 (qVal R fuel g e.ply) alpha beta := by
  have hMP : Gen.MAX_PLY = 64 := rfl
  intro fuel
  induction fuel with
  | zero => intro g alpha beta e _ h1 h2; omega
  | succ fuel ih =>
    intro g alpha beta e hab hply hfuel
    simp only [quiescence, qVal]
    have hp3 : (qEnter cfg g alpha beta e).ply = e.ply := qEnter_steps (plyEq_steps False).toQSteps cfg g alpha beta e
    generalize qEnter cfg g alpha beta e = e3 at hp3 ⊢
    rw [hp3]
    split
    · exact Sound.self _ _ _
    · rename_i hcut
      have hle : e.ply ≤ Gen.MAX_PLY - 1 := by
        simp only [Bool.or_eq_true, decide_eq_true_eq, not_or] at hcut; omega
      have hb := bestOf_ge R (fun c => qVal R fuel c (e.ply + 1)) g (R.generate g false) (R.evaluate g)
      have h64 : e.ply + 1 ≤ Gen.MAX_PLY := by omega
      have hfu : e.ply + 1 + fuel ≥ Gen.MAX_PLY + 1 := by omega
      split
      · -- stand-pat cut-off
        rename_i hsp
        simp only [Bool.and_eq_true, decide_eq_true_eq] at hsp
        exact Sound.high hab (Int.le_trans hsp.1 hb)
      · rename_i hsp
        simp only [Bool.and_eq_true, decide_eq_true_eq, not_and] at hsp
        have hperm := sortMoves_perm g (R.generate g false) e3
        have hp4 : (sortMoves g (R.generate g false) e3).2.ply = e.ply := by rw [sortMoves_same]; exact hp3
        have hmx := ite_gt_eq_max alpha (R.evaluate g)
        rw [qLoop_value R (quiescence R cfg fuel) (fun c => qVal R fuel c (e.ply + 1)) g beta e.ply
            (quiescence_steps (plyEq_steps False).toQSteps False.elim R cfg fuel)
            (fun c a b e' hab' hp' => hp' ▸ ih c a b e' hab' (by rw [hp']; exact h64) (by rw [hp']; exact hfu)) _ _ _ (by rw [hmx]; omega) hp4,
          bestOf_perm R _ g _ (R.generate g false) hperm, hmx, bestOf_max]
        exact Sound.clamp _ hab

end Jence
