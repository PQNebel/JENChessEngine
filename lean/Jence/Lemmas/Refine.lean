/-
  The abstraction map `Spec.abs` on a consistent position: square by square it is the board `b`; the occupancy function
  of the rules position is the engine's combined occupancy set; a piece index is of the colour its rules piece has.
-/
import Jence.Lemmas.Wf
namespace Jence
open Jence

theorem abs_at {g : Game} {b : Board} (wf : Wf g b) (t : Nat) (ht : t < 64) :
    Spec.at_ (Spec.abs g) t = (b t).map pieceOf := by
  rw [← boardOf_eq wf t ht, Spec.at_, Spec.abs, Array.getD_eq_getD_getElem?, Array.getElem?_map, Array.getElem?_range, if_pos ht]
  rfl

theorem abs_at_ge (g : Game) (t : Nat) (ht : 64 ≤ t) : Spec.at_ (Spec.abs g) t = none := by
  rw [Spec.at_, Spec.abs, Array.getD_eq_getD_getElem?, Array.getElem?_map, Array.getElem?_range, if_neg (by omega)]
  rfl

theorem abs_occupiedIn {g : Game} {b : Board} (wf : Wf g b) (t : Nat) (ht : t < 64) :
    Spec.occupiedIn (Spec.abs g) t = (b t).isSome := by
  unfold Spec.occupiedIn
  rw [abs_at wf t ht]
  cases b t <;> rfl

theorem abs_occupied {g : Game} {b : Board} (wf : Wf g b) (t : Nat) (ht : t < 64) :
    Spec.occupiedIn (Spec.abs g) t = getBit g.allOcc t := by
  rw [abs_occupiedIn wf t ht, wf.occA t ht]

theorem abs_ep (g : Game) (t : Nat) (ht : t < 64) : (Spec.abs g).ep = some t ↔ g.ep = t := by
  rw [Spec.abs]
  by_cases h64 : g.ep = 64
  · simp [h64]; omega
  · have : (g.ep == SQNONE) = false := by simpa using h64
    simp [this]

end Jence
