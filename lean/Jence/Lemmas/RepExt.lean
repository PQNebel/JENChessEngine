/-
  T18.1: a search reads the history array only below its index (and writes before it reads above it): two history
  arrays with the same index, size, overflow flag and the same recorded keys give the same search - same result, same
  printed lines, same table - whatever stale keys lie above the index. (`ucinewgame` resets the index and leaves the
  old keys in place; this is why that is as good as a fresh array: `clear_like_new`.) The same holds of `parse_position`,
  which replays the moves of the command into the array (`parsePosition_ext`).
  The array equivalence `RepEq` is in `Lemmas/RepTable`. A step that never touches the array commutes with replacing it
  (`Obl`). For the rest two runs are walked side by side: `Rel e1 e2` says the second environment is the first with an
  equivalent array, `Ext2 f` that `f` gives related runs the same answer and related environments; each helper of the
  search is `Ext2` if its recursive call is (`RecExt`), up to `negamax_ext` and `search_ext`. (`Ext` says the same of
  one environment and a replaced array; the walks use `Ext2`.)
-/
import Jence.Lemmas.SearchNF
namespace Jence
open Jence

def Env.setRep (e : Env) (r : RepTable) : Env := { e with rep := r }

@[simp] theorem Env.setRep_rep (e : Env) (r : RepTable) : (e.setRep r).rep = r := rfl
theorem Env.setRep_setRep (e : Env) (r r' : RepTable) : (e.setRep r).setRep r' = e.setRep r' := rfl
theorem Env.setRep_self (e : Env) : e.setRep e.rep = e := rfl

/-- `f` does not look above the index: equivalent history arrays in, same answer and equivalent arrays out -/
def Ext {α : Type} (f : Env → α × Env) : Prop :=
  ∀ e r, RepEq e.rep r → (f (e.setRep r)).1 = (f e).1 ∧ ∃ r', (f (e.setRep r)).2 = (f e).2.setRep r' ∧ RepEq (f e).2.rep r'

/-- `f` never touches the history array -/
def Obl (f : Env → Env) : Prop := ∀ e r, f (e.setRep r) = (f e).setRep r

theorem print_obl (l : String) : Obl (fun e => e.print l) := fun _ _ => rfl

/-! From here on the hook trace is off (`cfg.trace = 0`, as in every run of the unguarded engine): the hook events are
    the only place where a slot at or above the index is ever read (the `rep` event prints slot `index`). -/

section traceOff
variable (cfg : Cfg)

theorem ev_off (h0 : cfg.trace = 0) (e : Env) (w : List UInt64) (l : Unit → String) : e.ev cfg w l = e := by
  unfold Env.ev; rw [h0]; rfl

theorem onNode_off (h0 : cfg.trace = 0) (e : Env) (k : Nat) (g : Game) (d : Nat) (a b : Int) : e.onNode cfg k g d a b = e := by
  unfold Env.onNode; rw [h0]; rfl

theorem poll_obl (h0 : cfg.trace = 0) : Obl (fun e => e.poll cfg) := by
  intro e r
  simp only [Env.poll, ev_off cfg h0, Env.setRep]
  split
  · rfl
  · split
    · rfl
    · cases e.chan ++ (cfg.world e.polls).lines with
      | nil => rfl
      | cons l rest =>
        dsimp only
        cases Env.classifyLine l.trimAscii.toString <;> rfl

theorem maybePoll_obl (h0 : cfg.trace = 0) : Obl (fun e => e.maybePoll cfg) := by
  intro e r
  have hp := poll_obl cfg h0 e r
  dsimp only at hp ⊢
  rw [maybePoll_def, maybePoll_def]
  show (if pollDue cfg e.nodes = true then _ else _) = _
  split
  · exact hp
  · rfl

theorem insertPv_obl (h0 : cfg.trace = 0) (m : Move) : Obl (fun e => e.insertPv cfg m) := by
  intro e r
  simp only [Env.insertPv, ev_off cfg h0]
  by_cases hs : e.stopping = true
  · have h1 : (e.setRep r).stopping = true := hs
    rw [if_pos h1, if_pos hs]; rfl
  · have h1 : ¬ (e.setRep r).stopping = true := hs
    rw [if_neg h1, if_neg hs]; rfl

theorem ttRecord_obl (h0 : cfg.trace = 0) (key : UInt64) (score : Int) (depth : Nat) (flag : Flag) :
    Obl (fun e => e.ttRecord cfg key score depth flag) := by
  intro e r
  simp only [Env.ttRecord, ev_off cfg h0]
  by_cases hs : e.stopping = true
  · have h1 : (e.setRep r).stopping = true := hs
    rw [if_pos h1, if_pos hs]; rfl
  · have h1 : ¬ (e.setRep r).stopping = true := hs
    rw [if_neg h1, if_neg hs]; rfl

end traceOff

theorem scoreMove_obl (g : Game) (m : Move) (e : Env) (r : RepTable) :
    scoreMove g m (e.setRep r) = ((scoreMove g m e).1, (scoreMove g m e).2.setRep r) := by
  unfold scoreMove
  dsimp only [Env.setRep, Env.pvAt, Env.killer, Env.hist]
  by_cases c1 : (e.scorePv && e.pv.getD (0 * 64 + e.ply) Move.null == m) = true
  · simp only [c1, ↓reduceIte]
  · simp only [c1, ↓reduceIte, Bool.false_eq_true]
    by_cases c2 : m.isCapture = true
    · simp only [c2, ↓reduceIte]
    · simp only [c2, ↓reduceIte, Bool.false_eq_true]
      by_cases c3 : (e.killers.getD (0 * 64 + e.ply) none == some m) = true
      · simp only [c3, ↓reduceIte]
      · simp only [c3, ↓reduceIte, Bool.false_eq_true]
        by_cases c4 : (e.killers.getD (1 * 64 + e.ply) none == some m) = true
        · simp only [c4, ↓reduceIte]
        · simp only [c4, ↓reduceIte, Bool.false_eq_true]

theorem scoreAll_obl (g : Game) : ∀ (ms : List Move) (e : Env) (acc : Array (Int × Move)) (r : RepTable),
    scoreAll g ms (e.setRep r) acc = ((scoreAll g ms e acc).1, (scoreAll g ms e acc).2.setRep r) := by
  intro ms
  induction ms with
  | nil => intro e acc r; rfl
  | cons m ms ih =>
    intro e acc r
    dsimp only [scoreAll]
    rw [scoreMove_obl]
    exact ih _ _ _

theorem sortMoves_obl (g : Game) (ms : List Move) (e : Env) (r : RepTable) :
    sortMoves g ms (e.setRep r) = ((sortMoves g ms e).1, (sortMoves g ms e).2.setRep r) := by
  unfold sortMoves
  rw [scoreAll_obl]

/-- the second environment is the first with an equivalent history array -/
def Rel (e1 e2 : Env) : Prop := ∃ r, e2 = e1.setRep r ∧ RepEq e1.rep r

theorem Rel.refl (e : Env) : Rel e e := ⟨e.rep, rfl, RepEq.refl _⟩

theorem Obl.rep {f : Env → Env} (hf : Obl f) (e : Env) : (f e).rep = e.rep := by
  have := hf e e.rep
  have h2 := congrArg Env.rep this
  exact h2

section fields
variable {e1 e2 : Env} (h : Rel e1 e2)
include h
theorem Rel.ply : e2.ply = e1.ply := by obtain ⟨r, rfl, _⟩ := h; rfl
theorem Rel.stopping : e2.stopping = e1.stopping := by obtain ⟨r, rfl, _⟩ := h; rfl
theorem Rel.followPv : e2.followPv = e1.followPv := by obtain ⟨r, rfl, _⟩ := h; rfl
theorem Rel.nodes : e2.nodes = e1.nodes := by obtain ⟨r, rfl, _⟩ := h; rfl
theorem Rel.tt : e2.tt = e1.tt := by obtain ⟨r, rfl, _⟩ := h; rfl
theorem Rel.pvLen : e2.pvLen = e1.pvLen := by obtain ⟨r, rfl, _⟩ := h; rfl
theorem Rel.pv : e2.pv = e1.pv := by obtain ⟨r, rfl, _⟩ := h; rfl
theorem Rel.killers : e2.killers = e1.killers := by obtain ⟨r, rfl, _⟩ := h; rfl
theorem Rel.history : e2.history = e1.history := by obtain ⟨r, rfl, _⟩ := h; rfl
theorem Rel.out : e2.out = e1.out := by obtain ⟨r, rfl, _⟩ := h; rfl
theorem Rel.ttHits : e2.ttHits = e1.ttHits := by obtain ⟨r, rfl, _⟩ := h; rfl
theorem Rel.repEq : RepEq e1.rep e2.rep := by obtain ⟨r, rfl, hr⟩ := h; exact hr
theorem Rel.isRepetition (k : UInt64) : e2.rep.isRepetition k = e1.rep.isRepetition k := (h.repEq.isRepetition k).symm
end fields

theorem Rel.map {e1 e2 : Env} (h : Rel e1 e2) (f : Env → Env) (hf : Obl f) : Rel (f e1) (f e2) := by
  obtain ⟨r, rfl, hr⟩ := h
  exact ⟨r, hf e1 r, by rw [hf.rep]; exact hr⟩

theorem Rel.push {e1 e2 : Env} (h : Rel e1 e2) (k : UInt64) :
    Rel { e1 with rep := e1.rep.insert k, ply := e1.ply + 1 } { e2 with rep := e2.rep.insert k, ply := e2.ply + 1 } := by
  obtain ⟨r, rfl, hr⟩ := h
  exact ⟨r.insert k, rfl, hr.insert k⟩

theorem Rel.pop {e1 e2 : Env} (h : Rel e1 e2) :
    Rel { e1 with ply := e1.ply - 1, rep := e1.rep.moveBack } { e2 with ply := e2.ply - 1, rep := e2.rep.moveBack } := by
  obtain ⟨r, rfl, hr⟩ := h
  exact ⟨r.moveBack, rfl, hr.moveBack⟩

theorem Rel.down {e1 e2 : Env} (h : Rel e1 e2) (k : UInt64) :
    Rel { e1 with ply := e1.ply + 1, rep := (e1.rep.insert k).moveBack } { e2 with ply := e2.ply + 1, rep := (e2.rep.insert k).moveBack } := by
  obtain ⟨r, rfl, hr⟩ := h
  exact ⟨(r.insert k).moveBack, rfl, (hr.insert k).moveBack⟩

/-- a function of the environment that treats related environments alike -/
def Ext2 {α : Type} (f : Env → α × Env) : Prop := ∀ e1 e2, Rel e1 e2 → (f e2).1 = (f e1).1 ∧ Rel (f e1).2 (f e2).2

/-- the form in which a two-run fact is used: the second run is rewritten into the first, so that both sides of the goal
    branch on the same conditions and one `split` serves both -/
theorem Ext2.run {α : Type} {f : Env → α × Env} (hf : Ext2 f) {e1 e2 : Env} (h : Rel e1 e2) :
    ∃ x2, f e2 = ((f e1).1, x2) ∧ Rel (f e1).2 x2 :=
  ⟨(f e2).2, Prod.ext (hf e1 e2 h).1 rfl, (hf e1 e2 h).2⟩

theorem qLoop_ext (R : Rules) (rec : Game → Int → Int → Env → Int × Env) (hrec : ∀ c a b, Ext2 (rec c a b)) (g : Game) (beta : Int) :
    ∀ (ms : List Move) (ta : Int), Ext2 (qLoop R rec g beta ms ta) := by
  intro ms
  induction ms with
  | nil => intro ta e1 e2 h; exact ⟨rfl, h⟩
  | cons m ms ih =>
    intro ta e1 e2 h
    dsimp only [qLoop]
    cases R.make g m with
    | none => exact ih ta e1 e2 h
    | some c =>
      dsimp only
      obtain ⟨x, hx, hr⟩ := (hrec c (-beta) (-ta)).run (h.push c.key)
      rw [hx]
      dsimp only
      split
      · exact ⟨rfl, hr.pop⟩
      · exact ih _ _ _ hr.pop

theorem sortMoves_rel (g : Game) (ms : List Move) {e1 e2 : Env} (h : Rel e1 e2) :
    (sortMoves g ms e2).1 = (sortMoves g ms e1).1 ∧ Rel (sortMoves g ms e1).2 (sortMoves g ms e2).2 := by
  obtain ⟨r, rfl, hr⟩ := h
  rw [sortMoves_obl]
  refine ⟨rfl, r, rfl, ?_⟩
  rw [sortMoves_same]; exact hr

/-- the recursive call treats related environments alike, whatever its arguments: what the walks below assume of `rec`
    and `negamax_ext` proves of `negamax` -/
def RecExt (rec : Game → Nat → Int → Int → Env → Int × Env) : Prop := ∀ c d a b, Ext2 (rec c d a b)

theorem searchChild_ext (rec : Game → Nat → Int → Int → Env → Int × Env) (hrec : RecExt rec) (c : Game) (m : Move)
    (searched depth nDepth : Nat) (inCheck : Bool) (ta beta : Int) : Ext2 (searchChild rec c m searched depth nDepth inCheck ta beta) := by
  -- the null-window probe and the re-search, after a first probe that came back with `score`
  have rest : ∀ score : Int, Ext2 fun e =>
      if score > ta then
        match rec c (nDepth - 1) (-ta - 1) (-ta) e with
        | (s, e) => if (decide (-s > ta) && decide (-s < beta)) = true then
            (match rec c (nDepth - 1) (-beta) (-ta) e with | (s, e) => (-s, e)) else (-s, e)
      else (score, e) := fun score e1 e2 h => by
    dsimp only
    split
    · obtain ⟨y, hy, hr2⟩ := (hrec c (nDepth - 1) (-ta - 1) (-ta)).run h
      rw [hy]
      split
      · obtain ⟨z, hz, hr3⟩ := (hrec c (nDepth - 1) (-beta) (-ta)).run hr2
        rw [hz]; exact ⟨rfl, hr3⟩
      · exact ⟨rfl, hr2⟩
    · exact ⟨rfl, h⟩
  intro e1 e2 h
  unfold searchChild
  by_cases h0 : (searched == 0) = true
  · rw [if_pos h0, if_pos h0]
    obtain ⟨x, hx, hr⟩ := (hrec c (nDepth - 1) (-beta) (-ta)).run h
    rw [hx]; exact ⟨rfl, hr⟩
  rw [if_neg h0, if_neg h0]
  by_cases hred : (decide (searched ≥ Gen.FULL_DEPTH_MOVES) && decide (depth ≥ Gen.REDUCTION_LIMIT) && !inCheck && !m.isCapture && m.promotion == PNONE) = true
  · -- reduced search first
    rw [if_pos hred, if_pos hred]
    obtain ⟨x, hx, hr⟩ := (hrec c (nDepth - 2) (-ta - 1) (-ta)).run h
    rw [hx]
    exact rest _ _ _ hr
  · rw [if_neg hred, if_neg hred]
    exact rest _ _ _ h

theorem nullMoveStep_ext (R : Rules) (rec : Game → Nat → Int → Int → Env → Int × Env) (hrec : RecExt rec) (g : Game)
    (nDepth : Nat) (inCheck : Bool) (beta : Int) : Ext2 (nullMoveStep R rec g nDepth inCheck beta) := by
  intro e1 e2 h
  unfold nullMoveStep
  rw [h.ply]
  by_cases hc : (decide (nDepth ≥ 3) && !inCheck && decide (e1.ply > 0)) = true
  · rw [if_pos hc, if_pos hc]
    dsimp only
    have hd : Rel { e1 with ply := e1.ply + 1 } { e2 with ply := e2.ply + 1 } := Rel.map h (fun e => { e with ply := e.ply + 1 }) (fun _ _ => rfl)
    have hr := hrec (R.nullMove g) (nDepth - 1 - 2) (-beta) (-beta + 1) _ _ hd
    rw [h.ply] at hr
    generalize rec (R.nullMove g) (nDepth - 1 - 2) (-beta) (-beta + 1) { e1 with ply := e1.ply + 1 } = r1 at hr
    generalize rec (R.nullMove g) (nDepth - 1 - 2) (-beta) (-beta + 1) { e2 with ply := e1.ply + 1 } = r2 at hr
    obtain ⟨s1, x1⟩ := r1; obtain ⟨s2, x2⟩ := r2
    simp only at hr ⊢
    obtain ⟨hs, hx⟩ := hr; subst hs
    have h3 : Rel { x1 with ply := x1.ply - 1 } { x2 with ply := x2.ply - 1 } := Rel.map hx (fun e => { e with ply := e.ply - 1 }) (fun _ _ => rfl)
    generalize ({ x1 with ply := x1.ply - 1 } : Env) = y1 at h3 ⊢
    generalize ({ x2 with ply := x2.ply - 1 } : Env) = y2 at h3 ⊢
    rw [hx.stopping]
    split
    · exact ⟨rfl, h3⟩
    · split
      · exact ⟨rfl, h3⟩
      · exact ⟨rfl, h3⟩
  · rw [if_neg hc, if_neg hc]; exact ⟨rfl, h⟩

section walk
variable (R : Rules) (cfg : Cfg)

theorem qEnter_rel (h0 : cfg.trace = 0) (g : Game) (alpha beta : Int) {e1 e2 : Env} (h : Rel e1 e2) :
    Rel (qEnter cfg g alpha beta e1) (qEnter cfg g alpha beta e2) := by
  unfold qEnter
  simp only [onNode_off cfg h0]
  exact Rel.map (h.map _ (maybePoll_obl cfg h0)) (fun e => { e with nodes := e.nodes + 1 }) (fun _ _ => rfl)

theorem quiescence_ext (h0 : cfg.trace = 0) : ∀ fuel g alpha beta, Ext2 (quiescence R cfg fuel g alpha beta) := by
  intro fuel
  induction fuel with
  | zero => intro g alpha beta e1 e2 h; exact ⟨rfl, h⟩
  | succ fuel ih =>
    intro g alpha beta e1 e2 h
    dsimp only [quiescence]
    have h3 := qEnter_rel cfg h0 g alpha beta h
    generalize qEnter cfg g alpha beta e1 = a1 at h3
    generalize qEnter cfg g alpha beta e2 = a2 at h3
    rw [h3.ply]
    split
    · exact ⟨rfl, h3⟩
    · split
      · exact ⟨rfl, h3⟩
      · obtain ⟨s1, s2⟩ := sortMoves_rel g (R.generate g false) h3
        rw [s1]
        exact qLoop_ext R _ (fun c a b => ih c a b) g beta _ _ _ _ s2

theorem raised_obl (h0 : cfg.trace = 0) (m : Move) (depth : Nat) : Obl (fun e => e.raised cfg m depth) := by
  intro e r
  have h := insertPv_obl cfg h0 m e r
  unfold Env.raised
  dsimp only at h ⊢
  rw [h]; split <;> rfl

theorem cut_obl (h0 : cfg.trace = 0) (g : Game) (m : Move) (depth : Nat) (beta : Int) : Obl (fun e => e.cut cfg g m depth beta) := by
  intro e r
  have h := insertPv_obl cfg h0 m e r
  unfold Env.cut
  dsimp only at h ⊢
  rw [h]
  generalize e.insertPv cfg m = e4
  split
  · exact ttRecord_obl cfg h0 g.key beta depth Flag.beta { e4 with killers := (e4.killers.setIfInBounds (64 + e4.ply) (e4.killer 0 e4.ply)).setIfInBounds e4.ply (some m) } r
  · exact ttRecord_obl cfg h0 g.key beta depth Flag.beta e4 r

theorem afterChild_ext (h0 : cfg.trace = 0) (g : Game) (m : Move) (depth : Nat) (beta : Int)
    (k : Int → Flag → Nat → Nat → Env → LoopOut × Env) (hk : ∀ ta flag legal searched, Ext2 (k ta flag legal searched))
    (ta : Int) (flag : Flag) (legal searched : Nat) (s : Int) : Ext2 (afterChild cfg g m depth beta k ta flag legal searched s) := by
  intro e1 e2 h
  unfold afterChild
  rw [h.stopping]
  by_cases hs : e1.stopping = true
  · rw [if_pos hs, if_pos hs]; exact ⟨rfl, h⟩
  rw [if_neg hs, if_neg hs]
  by_cases hgt : s > ta
  · rw [if_pos hgt, if_pos hgt]
    by_cases hge : s ≥ beta
    · rw [if_pos hge, if_pos hge]; exact ⟨rfl, h.map _ (cut_obl cfg h0 g m depth beta)⟩
    · rw [if_neg hge, if_neg hge]; exact hk _ _ _ _ _ _ (h.map _ (raised_obl cfg h0 m depth))
  · rw [if_neg hgt, if_neg hgt]; exact hk _ _ _ _ _ _ h

theorem moveLoop_ext (h0 : cfg.trace = 0) (rec : Game → Nat → Int → Int → Env → Int × Env) (hrec : RecExt rec)
    (g : Game) (depth nDepth : Nat) (inCheck : Bool) (beta : Int) :
    ∀ (ms : List Move) (ta : Int) (flag : Flag) (legal searched : Nat),
      Ext2 (moveLoop R cfg rec g depth nDepth inCheck beta ms ta flag legal searched) := by
  intro ms
  induction ms with
  | nil => intro ta flag legal searched e1 e2 h; exact ⟨rfl, h⟩
  | cons m ms ih =>
    intro ta flag legal searched e1 e2 h
    rw [moveLoop_cons, moveLoop_cons]
    cases R.make g m with
    | none => exact ih ta flag legal searched e1 e2 h
    | some c =>
      dsimp only
      obtain ⟨x, hx, hr⟩ := (searchChild_ext rec hrec c m searched depth nDepth inCheck ta beta).run (h.down c.key)
      rw [hx]
      exact afterChild_ext cfg h0 g m depth beta _ ih ta flag legal searched _ _ _
        (Rel.map hr (fun e => { e with ply := e.ply - 1 }) (fun _ _ => rfl))

theorem finish_ext (h0 : cfg.trace = 0) (g : Game) (depth : Nat) (inCheck : Bool) (out : LoopOut) {e1 e2 : Env} (h : Rel e1 e2) :
    (finish cfg g depth inCheck (out, e2)).1 = (finish cfg g depth inCheck (out, e1)).1 ∧
    Rel (finish cfg g depth inCheck (out, e1)).2 (finish cfg g depth inCheck (out, e2)).2 := by
  cases out with
  | ret v => exact ⟨rfl, h⟩
  | done ta flag legal =>
    dsimp only [finish]
    split
    · simp only [ev_off cfg h0]
      rw [h.ply]; exact ⟨rfl, h⟩
    · exact ⟨rfl, h.map _ (ttRecord_obl cfg h0 g.key ta depth flag)⟩

theorem searchMoves_ext (h0 : cfg.trace = 0) (rec : Game → Nat → Int → Int → Env → Int × Env) (hrec : RecExt rec)
    (g : Game) (depth nDepth : Nat) (inCheck : Bool) (alpha beta : Int) : Ext2 (searchMoves R cfg rec g depth nDepth inCheck alpha beta) := by
  intro e1 e2 h
  unfold searchMoves
  dsimp only
  have h6 : Rel (if e1.followPv then enablePvScoring (R.generate g true) e1 else e1) (if e2.followPv then enablePvScoring (R.generate g true) e2 else e2) := by
    rw [h.followPv]
    split
    · exact Rel.map h (enablePvScoring (R.generate g true)) (fun _ _ => rfl)
    · exact h
  obtain ⟨s1, s2⟩ := sortMoves_rel g (R.generate g true) h6
  rw [s1]
  obtain ⟨x, hx, hr⟩ := (moveLoop_ext R cfg h0 rec hrec g depth nDepth inCheck beta _ alpha Flag.alpha 0 0).run s2
  rw [hx]
  exact finish_ext cfg h0 g depth inCheck _ hr

theorem expand_ext (h0 : cfg.trace = 0) (rec : Game → Nat → Int → Int → Env → Int × Env) (hrec : RecExt rec)
    (g : Game) (depth : Nat) (alpha beta : Int) : Ext2 (expand R cfg rec g depth alpha beta) := by
  intro e1 e2 h
  unfold expand
  dsimp only
  obtain ⟨x, hx, hr⟩ := (nullMoveStep_ext R rec hrec g (if R.inCheck g then depth + 1 else depth) (R.inCheck g) beta).run
    (Rel.map h (fun e => { e with nodes := e.nodes + 1 }) (fun _ _ => rfl))
  rw [hx]
  generalize nullMoveStep R rec g (if R.inCheck g then depth + 1 else depth) (R.inCheck g) beta { e1 with nodes := e1.nodes + 1 } = n1 at hr ⊢
  obtain ⟨v, y⟩ := n1
  cases v with
  | some v => exact ⟨rfl, hr⟩
  | none => exact searchMoves_ext R cfg h0 rec hrec g depth _ _ alpha beta _ _ hr

theorem afterProbe_ext (h0 : cfg.trace = 0) (rec : Game → Nat → Int → Int → Env → Int × Env) (hrec : RecExt rec)
    (g : Game) (depth : Nat) (alpha beta : Int) : Ext2 (afterProbe R cfg rec g depth alpha beta) := by
  intro e1 e2 h
  unfold afterProbe
  have hp := h.ply
  have h2 : Rel { e1 with pvLen := e1.pvLen.setIfInBounds e1.ply e1.ply } { e2 with pvLen := e2.pvLen.setIfInBounds e2.ply e2.ply } := by
    obtain ⟨r, rfl, hr⟩ := h; exact ⟨r, rfl, hr⟩
  by_cases hcap : e1.ply ≥ Gen.MAX_PLY - 1
  · rw [if_pos hcap, if_pos (by rw [hp]; exact hcap)]; exact ⟨rfl, h2⟩
  · rw [if_neg hcap, if_neg (by rw [hp]; exact hcap)]
    have h3 := h2.map _ (maybePoll_obl cfg h0)
    split
    · exact quiescence_ext R cfg h0 qFuel g alpha beta _ _ h3
    · exact expand_ext R cfg h0 rec hrec g depth alpha beta _ _ h3

end walk

/-- **a search does not look above the index of the history array** -/
theorem negamax_ext (R : Rules) (cfg : Cfg) (h0 : cfg.trace = 0) : ∀ fuel, RecExt (negamax R cfg fuel) := by
  intro fuel
  induction fuel with
  | zero => intro g depth alpha beta e1 e2 h; exact ⟨rfl, h⟩
  | succ fuel ih =>
    intro g depth alpha beta e1 e2 h
    have hp : probeNode cfg g depth alpha beta e2 = probeNode cfg g depth alpha beta e1 := by
      unfold probeNode Env.ttProbe; rw [h.ply, h.tt]
    simp only [negamax, onNode_off cfg h0]
    rw [h.ply, h.isRepetition, hp]
    split
    · unfold repReturn
      simp only [ev_off cfg h0]
      obtain ⟨r, rfl, hr⟩ := h; exact ⟨trivial, r, rfl, hr⟩
    · split
      · unfold ttReturn
        simp only [ev_off cfg h0]
        obtain ⟨r, rfl, hr⟩ := h; exact ⟨trivial, r, rfl, hr⟩
      · exact afterProbe_ext R cfg h0 _ ih g depth alpha beta e1 e2 h

theorem idLoop_ext (R : Rules) (cfg : Cfg) (h0 : cfg.trace = 0) (g : Game) :
    ∀ (count cur : Nat) (alpha beta score : Int) (e1 e2 : Env), Rel e1 e2 →
      (idLoop R cfg g count cur alpha beta score e2).1 = (idLoop R cfg g count cur alpha beta score e1).1 ∧
      (idLoop R cfg g count cur alpha beta score e2).2.1 = (idLoop R cfg g count cur alpha beta score e1).2.1 ∧
      Rel (idLoop R cfg g count cur alpha beta score e1).2.2 (idLoop R cfg g count cur alpha beta score e2).2.2 := by
  intro count
  induction count with
  | zero => intro cur alpha beta score e1 e2 h; exact ⟨rfl, rfl, h⟩
  | succ count ih =>
    intro cur alpha beta score e1 e2 h
    dsimp only [idLoop]
    obtain ⟨x, hx, hr⟩ := (negamax_ext R cfg h0 negaFuel g cur alpha beta).run
      (Rel.map h (fun e => { e with followPv := true }) (fun _ _ => rfl))
    rw [hx]
    dsimp only
    rw [hr.stopping]
    split
    · exact ⟨rfl, rfl, hr⟩
    · split
      · exact ih _ _ _ _ _ _ hr
      · have hinfo : ∀ s, infoLine s cur x = infoLine s cur (negamax R cfg negaFuel g cur alpha beta { e1 with followPv := true }).2 := by
          intro s; unfold infoLine pvLine Env.pvAt; rw [hr.nodes, hr.pvLen, hr.pv]
        rw [hinfo]
        exact ih _ _ _ _ _ _ (hr.map _ (print_obl _))

/-- **T18.1** `search` is a function of the *recorded* history: two history arrays with the same index, size, overflow
    flag and the same keys below the index give the same result, related final environments (equal in every field but
    the history array, which again agrees below the index) - hence the same printed lines and the same table. -/
theorem search_ext (R : Rules) (cfg : Cfg) (h0 : cfg.trace = 0) (g : Game) (depth : Int) (tt : TT) (rep1 rep2 : RepTable)
    (h : RepEq rep1 rep2) :
    (search R cfg g depth tt rep2).1 = (search R cfg g depth tt rep1).1 ∧
    Rel (search R cfg g depth tt rep1).2 (search R cfg g depth tt rep2).2 := by
  have hstart : Rel ({ tt := tt, rep := rep1 } : Env) ({ tt := tt, rep := rep2 } : Env) := ⟨rep2, rfl, h⟩
  have hl := idLoop_ext R cfg h0 g (if depth == -1 then Gen.MAX_PLY else (depth % 256).toNat) 1 (-Gen.INFINITY) Gen.INFINITY 0 _ _ hstart
  simp only [search, ev_off cfg h0]
  generalize idLoop R cfg g (if depth == -1 then Gen.MAX_PLY else (depth % 256).toNat) 1 (-Gen.INFINITY) Gen.INFINITY 0 ({ tt := tt, rep := rep1 } : Env) = l1 at hl
  generalize idLoop R cfg g (if depth == -1 then Gen.MAX_PLY else (depth % 256).toNat) 1 (-Gen.INFINITY) Gen.INFINITY 0 ({ tt := tt, rep := rep2 } : Env) = l2 at hl
  obtain ⟨sc1, cur1, x1⟩ := l1; obtain ⟨sc2, cur2, x2⟩ := l2
  dsimp only at hl ⊢
  obtain ⟨hs, hc, hx⟩ := hl
  subst hs; subst hc
  have hpv : x2.pvAt 0 0 = x1.pvAt 0 0 := by unfold Env.pvAt; rw [hx.pv]
  rw [hpv]
  have hfin := hx.map _ (print_obl (s!"bestmove {(if x1.pvAt 0 0 == Move.null then (R.firstLegal g).getD (x1.pvAt 0 0) else x1.pvAt 0 0).toUci}"))
  refine ⟨?_, hfin⟩
  rw [hfin.nodes, hfin.stopping, hfin.ttHits]

/-- results of `parse_position` that agree up to stale slots of the history array -/
def ResEq : Res (Game × RepTable) → Res (Game × RepTable) → Prop
  | .ok (g1, r1), .ok (g2, r2) => g1 = g2 ∧ RepEq r1 r2
  | .none, .none => True
  | .panic, .panic => True
  | _, _ => False

theorem replayMoves_ext : ∀ (mvs : List String) (g : Game) (r1 r2 : RepTable), RepEq r1 r2 →
    ResEq (replayMoves mvs g r1) (replayMoves mvs g r2) := by
  intro mvs
  induction mvs with
  | nil => intro g r1 r2 h; exact ⟨rfl, h⟩
  | cons mv rest ih =>
    intro g r1 r2 h
    dsimp only [replayMoves]
    cases parseMove g mv with
    | none => trivial
    | some m =>
      dsimp only [makeSearchMove]
      cases makeCore g m with
      | none => exact ih _ _ _ h
      | some g2 =>
        dsimp only [Option.map_some]
        have hi := h.insert g2.key
        rw [← hi.2.2.1]
        split
        · trivial
        · exact ih _ _ _ hi

theorem parsePosition_ext (args : String) (r1 r2 : RepTable) (h : RepEq r1 r2) :
    ResEq (parsePosition args r1) (parsePosition args r2) := by
  unfold parsePosition
  dsimp only
  split
  · trivial
  · trivial
  · rename_i g rest _
    have hi := h.insert g.key
    rw [← hi.2.2.1]
    split
    · trivial
    · split
      · exact replayMoves_ext _ _ _ _ hi
      · exact ⟨rfl, hi⟩

end Jence
