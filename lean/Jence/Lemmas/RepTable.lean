/-
  The history array (`RepTable`, `src/repetition_table.rs`): what `insert` and `move_back` do to the recorded keys `pre`,
  and two relations between arrays. `RepKeep r r'` is what a frame of the search does to the array: overflow is sticky,
  and without it index, recorded keys and size are kept (`RepKeep.pop`: a push followed by a pop keeps it; `Lemmas/Frame`).
  `RepEq r1 r2` holds of two arrays that record the same history and differ only in stale slots above the index: what two
  runs are compared under (`Lemmas/RepExt`). `RepEq.of_pre` leads from the first to the second: an array with the index,
  keys, size and flag of another is equivalent to it.
-/
import Jence.Model.Types
import Jence.Lemmas.ListExtra
namespace Jence
open Jence

theorem RepTable.pre_length (r : RepTable) : r.pre.length = r.index := by simp [RepTable.pre]

theorem RepTable.insert_overflow_mono (r : RepTable) (k : UInt64) (h : r.overflow = true) : (r.insert k).overflow = true := by
  unfold RepTable.insert; split <;> simp [h]

theorem RepTable.insert_ok (r : RepTable) (k : UInt64) (h : (r.insert k).overflow = false) :
    r.index < r.table.size ∧ r.overflow = false := by
  unfold RepTable.insert at h
  split at h
  · rename_i hlt; exact ⟨hlt, h⟩
  · simp at h

theorem RepTable.insert_pre (r : RepTable) (k : UInt64) (hlt : r.index < r.table.size) :
    (r.insert k).pre = r.pre ++ [k] ∧ (r.insert k).index = r.index + 1 ∧ (r.insert k).table.size = r.table.size ∧
    (r.insert k).overflow = r.overflow := by
  unfold RepTable.insert RepTable.pre
  simp only [hlt, ↓reduceIte, List.range_succ, List.map_append, List.map_cons, List.map_nil, Array.size_setIfInBounds, and_true]
  congr 1
  · apply List.map_congr_left
    intro i hi
    have : i < r.index := List.mem_range.mp hi
    exact getD_setIfInBounds_ne _ _ _ (by omega)
  · rw [getD_setIfInBounds_self _ _ _ hlt]

theorem RepTable.moveBack_pre (r : RepTable) (l : List UInt64) (k : UInt64) (h : r.pre = l ++ [k]) :
    r.moveBack.pre = l ∧ r.moveBack.index = r.index - 1 := by
  have hlen : r.index = l.length + 1 := by rw [← RepTable.pre_length, h]; simp
  unfold RepTable.moveBack RepTable.pre at *
  simp only [and_true]
  rw [hlen] at h ⊢
  simp only [Nat.add_sub_cancel, List.range_succ, List.map_append, List.map_cons, List.map_nil] at h ⊢
  exact (List.append_inj' h (by simp)).1

/-- what the invariant says of the history array -/
def RepKeep (r r' : RepTable) : Prop :=
  (r.overflow = true → r'.overflow = true) ∧
  (r'.overflow = false → r'.index = r.index ∧ r'.pre = r.pre ∧ r'.table.size = r.table.size)

theorem RepKeep.refl (r : RepTable) : RepKeep r r := ⟨id, fun _ => ⟨rfl, rfl, rfl⟩⟩

theorem RepKeep.no_overflow {r r' : RepTable} (h : RepKeep r r') (ho : r'.overflow = false) : r.overflow = false := by
  cases hx : r.overflow with
  | false => rfl
  | true => rw [h.1 hx] at ho; exact absurd ho (by simp)

theorem RepKeep.trans {a b c : RepTable} (h1 : RepKeep a b) (h2 : RepKeep b c) : RepKeep a c :=
  ⟨fun h => h2.1 (h1.1 h), fun hc => by
    obtain ⟨b1, b2, b3⟩ := h2.2 hc
    obtain ⟨a1, a2, a3⟩ := h1.2 (h2.no_overflow hc)
    exact ⟨b1.trans a1, b2.trans a2, b3.trans a3⟩⟩

theorem RepKeep.pop {r r2 : RepTable} {k : UInt64} (h : RepKeep (r.insert k) r2) : RepKeep r r2.moveBack := by
  refine ⟨fun ho => h.1 (RepTable.insert_overflow_mono r k ho), fun hc => ?_⟩
  obtain ⟨i2, p2, s2⟩ := h.2 hc
  obtain ⟨hlt, _⟩ := RepTable.insert_ok r k (h.no_overflow hc)
  obtain ⟨hpre, hidx, hsz, _⟩ := RepTable.insert_pre r k hlt
  obtain ⟨hmb, hmi⟩ := RepTable.moveBack_pre r2 _ _ (p2.trans hpre)
  exact ⟨by rw [hmi, i2, hidx]; omega, hmb, s2.trans hsz⟩

/-- `negamax` pushes the child's key and pops it at once (the slot above the history keeps it) -/
theorem RepTable.insert_moveBack (r : RepTable) (k : UInt64) : RepKeep r (r.insert k).moveBack := (RepKeep.refl _).pop

/-- same recorded history, possibly different stale slots above the index -/
def RepEq (r1 r2 : RepTable) : Prop :=
  r1.index = r2.index ∧ r1.table.size = r2.table.size ∧ r1.overflow = r2.overflow ∧
  ∀ i, i < r1.index → r1.table.getD i 0 = r2.table.getD i 0

theorem RepEq.refl (r : RepTable) : RepEq r r := ⟨rfl, rfl, rfl, fun _ _ => rfl⟩

theorem RepEq.pre {r1 r2 : RepTable} (h : RepEq r1 r2) : r1.pre = r2.pre := by
  unfold RepTable.pre
  rw [← h.1]
  apply List.map_congr_left
  intro i hi
  exact h.2.2.2 i (List.mem_range.1 hi)

theorem RepEq.of_pre {r1 r2 : RepTable} (hi : r1.index = r2.index) (hs : r1.table.size = r2.table.size)
    (ho : r1.overflow = r2.overflow) (hp : r1.pre = r2.pre) : RepEq r1 r2 := by
  refine ⟨hi, hs, ho, fun i hlt => ?_⟩
  unfold RepTable.pre at hp
  rw [← hi] at hp
  have := congrArg (fun l => l[i]?) hp
  simp only [List.getElem?_map, List.getElem?_range hlt, Option.map_some] at this
  exact Option.some.inj this

theorem RepEq.isRepetition {r1 r2 : RepTable} (h : RepEq r1 r2) (k : UInt64) : r1.isRepetition k = r2.isRepetition k := by
  unfold RepTable.isRepetition; rw [h.pre]

theorem RepEq.insert {r1 r2 : RepTable} (h : RepEq r1 r2) (k : UInt64) : RepEq (r1.insert k) (r2.insert k) := by
  obtain ⟨h1, h2, h3, h4⟩ := h
  unfold RepTable.insert
  by_cases hlt : r1.index < r1.table.size
  · rw [if_pos hlt, if_pos (by rw [← h1, ← h2]; exact hlt)]
    refine ⟨by simp [h1], by simp [h2], h3, ?_⟩
    intro i hi
    dsimp only at hi ⊢
    by_cases hie : i = r1.index
    · subst hie
      rw [← h1]
      simp [Array.getD_eq_getD_getElem?, hlt, ← h2]
    · have : i < r1.index := by omega
      have hne2 : r2.index ≠ i := by rw [← h1]; exact fun h => hie h.symm
      rw [getD_setIfInBounds, getD_setIfInBounds, if_neg (fun h => hie h.1.symm), if_neg (fun h => hne2 h.1)]
      exact h4 i this
  · rw [if_neg hlt, if_neg (by rw [← h1, ← h2]; exact hlt)]
    exact ⟨h1, h2, rfl, h4⟩

theorem RepEq.moveBack {r1 r2 : RepTable} (h : RepEq r1 r2) : RepEq r1.moveBack r2.moveBack := by
  obtain ⟨h1, h2, h3, h4⟩ := h
  unfold RepTable.moveBack
  exact ⟨by simp [h1], h2, h3, fun i hi => h4 i (by simp at hi; omega)⟩

/-- `ucinewgame` / `position` reset the index and leave the old keys in the array: as good as a new array -/
theorem clear_like_new (r : RepTable) (ho : r.overflow = false) (hsz : r.table.size = Gen.REP_CAPACITY) : RepEq r.clear RepTable.new := by
  refine ⟨rfl, ?_, ho, fun i hi => absurd hi (Nat.not_lt_zero _)⟩
  show r.table.size = (Array.replicate Gen.REP_CAPACITY (0 : UInt64)).size
  rw [Array.size_replicate]; exact hsz

end Jence
