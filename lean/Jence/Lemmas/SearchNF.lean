/-
  The search in normal form: equations for `negamax` past its two early returns (`negamax_succ`), the table probe where
  it is skipped (`probeNode_*`), `repReturn`, `afterProbe`, `searchMoves`, one round of the move loop (`moveLoop_cons`,
  its two tails named: `Env.raised`, `Env.cut`) and `search` itself (`search_eq`), with the intermediate environments
  written as record updates of the one the helper received. A walk that follows the value rewrites with these. The other
  helpers have no equation here: `qEnter`, `qLoop`, `quiescence`, `ttReturn`, `expand`, `searchChild`, `nullMoveStep`
  and `idLoop` are read off their definitions or case rules, as `afterProbe` and `moveLoop` are where a walk needs
  every case; `finish_eq` stands with the primitives in `Lemmas/EnvOps`.
-/
import Jence.Lemmas.EnvOps
namespace Jence
open Jence

section helpers
variable (R : Rules) (cfg : Cfg) (rec : Game → Nat → Int → Int → Env → Int × Env)

/-- the two early-return tests are read off the environment the call received: the hook touches ghost fields only -/
theorem negamax_succ (fuel : Nat) (g : Game) (depth : Nat) (alpha beta : Int) (e : Env) :
    ∃ dg n lg, negamax R cfg (fuel + 1) g depth alpha beta e =
      if e.ply > 0 && e.rep.isRepetition g.key then repReturn cfg g { e with digest := dg, events := n, log := lg }
      else if probeNode cfg g depth alpha beta e != Gen.UNKNOWN_SCORE then
        ttReturn cfg g (probeNode cfg g depth alpha beta e) { e with digest := dg, events := n, log := lg }
      else afterProbe R cfg (negamax R cfg fuel) g depth alpha beta { e with digest := dg, events := n, log := lg } :=
  ⟨_, _, _, by rw [negamax, onNode_same]; rfl⟩

theorem probeNode_root (g : Game) (depth : Nat) (alpha beta : Int) (e : Env) (hp : e.ply = 0) :
    probeNode cfg g depth alpha beta e = Gen.UNKNOWN_SCORE := by
  unfold probeNode; rw [if_neg (by simp [hp])]

theorem probeNode_pv (g : Game) (depth : Nat) (alpha beta : Int) (e : Env) (hw : beta - alpha > 1) :
    probeNode cfg g depth alpha beta e = Gen.UNKNOWN_SCORE := by
  unfold probeNode; rw [if_neg (by simp [hw])]

theorem probeNode_bypass (g : Game) (depth : Nat) (alpha beta : Int) (e : Env) (hbyp : cfg.ttBypass = true) :
    probeNode cfg g depth alpha beta e = Gen.UNKNOWN_SCORE := by
  unfold probeNode Env.ttProbe; rw [hbyp]; simp

theorem repReturn_eq (g : Game) (e : Env) : ∃ dg n lg, repReturn cfg g e =
    (0, { e with digest := dg, events := n, log := lg, pvLen := e.pvLen.setIfInBounds e.ply e.ply }) :=
  ⟨_, _, _, by rw [repReturn, ev_same]⟩

/-- `e3` is the environment after `maybe_poll`; the nine values are what a poll may have changed -/
theorem afterProbe_eq (g : Game)
    (depth : Nat) (alpha beta : Int) (e : Env) : ∃ po pl ch dg n lg st ou de,
    let e3 : Env := { e with pvLen := e.pvLen.setIfInBounds e.ply e.ply, polls := po, pollLog := pl, chan := ch, digest := dg, events := n,
                             log := lg, stopping := st, out := ou, deferred := de }
    Polled e3 ∧ e3 = ({ e with pvLen := e.pvLen.setIfInBounds e.ply e.ply } : Env).maybePoll cfg ∧
    afterProbe R cfg rec g depth alpha beta e =
      if e.ply ≥ Gen.MAX_PLY - 1 then (R.evaluate g, { e with pvLen := e.pvLen.setIfInBounds e.ply e.ply })
      else if depth == 0 || g.halfMoves == 100 then quiescence R cfg qFuel g alpha beta e3
      else expand R cfg rec g depth alpha beta e3 := by
  have hpo := polled_maybePoll cfg { e with pvLen := e.pvLen.setIfInBounds e.ply e.ply }
  rw [maybePoll_same] at hpo
  exact ⟨_, _, _, _, _, _, _, _, _, hpo, (maybePoll_same cfg { e with pvLen := e.pvLen.setIfInBounds e.ply e.ply }).symm,
    by rw [afterProbe, maybePoll_same]⟩

theorem searchMoves_eq (g : Game)
    (depth nDepth : Nat) (inCheck : Bool) (alpha beta : Int) (e : Env) : ∃ ms a b, ms.Perm (R.generate g true) ∧
    searchMoves R cfg rec g depth nDepth inCheck alpha beta e =
      finish cfg g depth inCheck (moveLoop R cfg rec g depth nDepth inCheck beta ms alpha .alpha 0 0 { e with followPv := a, scorePv := b }) := by
  unfold searchMoves
  dsimp only
  have h6 : ∃ a b, (if e.followPv then enablePvScoring (R.generate g true) e else e) = { e with followPv := a, scorePv := b } := by
    split
    · exact ⟨_, _, rfl⟩
    · exact ⟨_, _, rfl⟩
  obtain ⟨a, b, h6⟩ := h6
  rw [h6, sortMoves_same]
  exact ⟨_, a, _, sortMoves_perm g _ _, rfl⟩

end helpers

/-- the environment the move loop goes on with after a move that raised alpha: `insert_pv_node`, then the history score -/
def Env.raised (cfg : Cfg) (e : Env) (m : Move) (depth : Nat) : Env :=
  let e := e.insertPv cfg m
  if !m.isCapture then { e with history := e.history.setIfInBounds (m.piece * 64 + m.toSq) (e.hist m.piece m.toSq + depth) } else e

/-- the environment the move loop returns after a cut-off: `insert_pv_node`, the killers, the table record -/
def Env.cut (cfg : Cfg) (e : Env) (g : Game) (m : Move) (depth : Nat) (beta : Int) : Env :=
  let e := e.insertPv cfg m
  let e := if !m.isCapture then
    { e with killers := (e.killers.setIfInBounds (64 + e.ply) (e.killer 0 e.ply)).setIfInBounds e.ply (some m) } else e
  e.ttRecord cfg g.key beta depth .beta

section tails
variable (cfg : Cfg) (e : Env) (g : Game) (m : Move) (depth : Nat) (beta : Int)

theorem raised_eq : ∃ ps dg n lg h, e.raised cfg m depth =
    { e with postStopWrites := ps, digest := dg, events := n, log := lg, history := h,
             pv := (Env.pvInsert e.pv e.pvLen e.ply m).1, pvLen := (Env.pvInsert e.pv e.pvLen e.ply m).2 } := by
  unfold Env.raised
  rw [insertPv_same]
  split <;> exact ⟨_, _, _, _, _, rfl⟩

theorem cut_eq : ∃ ps dg n lg ks tt, e.cut cfg g m depth beta =
    { e with postStopWrites := ps, digest := dg, events := n, log := lg, killers := ks, tt := tt,
             pv := (Env.pvInsert e.pv e.pvLen e.ply m).1, pvLen := (Env.pvInsert e.pv e.pvLen e.ply m).2 } := by
  unfold Env.cut
  rw [insertPv_same]
  split
  all_goals
    rw [ttRecord_same]; exact ⟨_, _, _, _, _, _, rfl⟩

theorem raised_rep_ply : (e.raised cfg m depth).rep = e.rep ∧ (e.raised cfg m depth).ply = e.ply := by
  obtain ⟨_, _, _, _, _, h⟩ := raised_eq cfg e m depth; rw [h]; exact ⟨rfl, rfl⟩

theorem cut_rep_ply :
    (e.cut cfg g m depth beta).rep = e.rep ∧ (e.cut cfg g m depth beta).ply = e.ply := by
  obtain ⟨_, _, _, _, _, _, h⟩ := cut_eq cfg e g m depth beta; rw [h]; exact ⟨rfl, rfl⟩

theorem raised_stopping : (e.raised cfg m depth).stopping = e.stopping := by
  obtain ⟨_, _, _, _, _, h⟩ := raised_eq cfg e m depth; rw [h]

theorem raised_pv_eq : (e.raised cfg m depth).ply = (e.insertPv cfg m).ply ∧
    (e.raised cfg m depth).pv = (e.insertPv cfg m).pv ∧ (e.raised cfg m depth).pvLen = (e.insertPv cfg m).pvLen := by
  unfold Env.raised
  split <;> exact ⟨rfl, rfl, rfl⟩

end tails

/-- what the move loop does with the score of a searched child (`k`: the rest of the loop) -/
def afterChild (cfg : Cfg) (g : Game) (m : Move) (depth : Nat) (beta : Int) (k : Int → Flag → Nat → Nat → Env → LoopOut × Env)
    (ta : Int) (flag : Flag) (legal searched : Nat) (score : Int) (e : Env) : LoopOut × Env :=
  if e.stopping then (.ret 0, e)
  else if score > ta then
    if score ≥ beta then (.ret beta, e.cut cfg g m depth beta)
    else k score .exact (legal + 1) (searched + 1) (e.raised cfg m depth)
  else k ta flag (legal + 1) (searched + 1) e

theorem moveLoop_cons (R : Rules) (cfg : Cfg) (rec : Game → Nat → Int → Int → Env → Int × Env) (g : Game)
    (depth nDepth : Nat) (inCheck : Bool) (beta : Int) (m : Move) (ms : List Move) (ta : Int) (flag : Flag) (legal searched : Nat) (e : Env) :
    moveLoop R cfg rec g depth nDepth inCheck beta (m :: ms) ta flag legal searched e =
      match R.make g m with
      | none => moveLoop R cfg rec g depth nDepth inCheck beta ms ta flag legal searched e
      | some c =>
        let r := searchChild rec c m searched depth nDepth inCheck ta beta { e with ply := e.ply + 1, rep := (e.rep.insert c.key).moveBack }
        afterChild cfg g m depth beta (moveLoop R cfg rec g depth nDepth inCheck beta ms) ta flag legal searched r.1 { r.2 with ply := r.2.ply - 1 } := by
  rw [moveLoop]; rfl

/-- the environment `search` starts from -/
def Env.fresh (tt : TT) (rep : RepTable) : Env := { tt := tt, rep := rep }

/-- the state in which `search` leaves the iterative-deepening loop -/
def searchLoopEnd (R : Rules) (cfg : Cfg) (g : Game) (depth : Int) (tt : TT) (rep : RepTable) : Int × Nat × Env :=
  idLoop R cfg g (if depth == -1 then Gen.MAX_PLY else (depth % 256).toNat) 1 (-Gen.INFINITY) Gen.INFINITY 0 (Env.fresh tt rep)

theorem search_eq (R : Rules) (cfg : Cfg) (g : Game) (depth : Int) (tt : TT) (rep : RepTable) :
    let le := (searchLoopEnd R cfg g depth tt rep).2.2
    let best := if le.pvAt 0 0 == Move.null then (R.firstLegal g).getD (le.pvAt 0 0) else le.pvAt 0 0
    (search R cfg g depth tt rep).1.bestMove = best ∧
    ∃ d n lg, (search R cfg g depth tt rep).2 = ({ le with digest := d, events := n, log := lg } : Env).print s!"bestmove {best.toUci}" := by
  unfold search searchLoopEnd Env.fresh
  dsimp only
  generalize idLoop R cfg g _ 1 (-Gen.INFINITY) Gen.INFINITY 0 _ = r
  obtain ⟨score, cur, le⟩ := r
  rw [ev_same]
  exact ⟨rfl, _, _, _, rfl⟩

end Jence
