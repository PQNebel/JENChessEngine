/-
  The slider lookups of the engine are the rules' slides, for every square and every occupancy (`IsSlider`): the table
  lookup is the ray loop (`Lemmas/TableLift`), the ray loop is the coordinate walk (`Lemmas/Attack`).
-/
import Jence.Lemmas.Attack
import Jence.Lemmas.TableLift
namespace Jence
open Jence

def IsSlider (get : Nat → UInt64 → UInt64) (dirs : List (Int × Int)) : Prop :=
  ∀ s, s < 64 → ∀ occ, get s occ = Spec.toBits (Spec.slide (getBit occ) s dirs)

theorem rook_isSlider : IsSlider getRookAttacks Spec.rookDirs :=
  fun s hs occ => (getRookAttacks_eq s hs occ).trans (rookOnTheFly_eq_slide s hs occ)

theorem bishop_isSlider : IsSlider getBishopAttacks Spec.bishopDirs :=
  fun s hs occ => (getBishopAttacks_eq s hs occ).trans (bishopOnTheFly_eq_slide s hs occ)

theorem IsSlider.union {g₁ g₂ : Nat → UInt64 → UInt64} {d₁ d₂ : List (Int × Int)} (h₁ : IsSlider g₁ d₁) (h₂ : IsSlider g₂ d₂) :
    IsSlider (fun s occ => g₁ s occ ||| g₂ s occ) (d₁ ++ d₂) := fun s hs occ => by
  show g₁ s occ ||| g₂ s occ = _
  rw [h₁ s hs, h₂ s hs, ← toBits_append _ _ (slide_lt _ _ _) (slide_lt _ _ _)]
  unfold Spec.slide; rw [List.flatMap_append]

theorem queen_isSlider : IsSlider getQueenAttacks (Spec.rookDirs ++ Spec.bishopDirs) := rook_isSlider.union bishop_isSlider

theorem IsSlider.mem {get : Nat → UInt64 → UInt64} {dirs : List (Int × Int)} (h : IsSlider get dirs) (s t : Nat)
    (hs : s < 64) (ht : t < 64) (occ : UInt64) : getBit (get s occ) t = true ↔ t ∈ Spec.slide (getBit occ) s dirs := by
  rw [h s hs, getBit_toBits _ _ (slide_lt _ _ _) ht, decide_eq_true_eq]

end Jence
