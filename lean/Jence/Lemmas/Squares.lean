/-
  Squares as coordinates (`Spec.onBoard`, `Spec.sqOf`, `Spec.fileOf`, `Spec.rowOf` in linear arithmetic) and as bit sets
  (`Spec.toBits` of a list of squares).
-/
import Jence.Lemmas.BitAlgebra
import Jence.Spec.Rules
namespace Jence
open Jence

theorem getBit_foldl_setBit (l : List Nat) (acc : UInt64) (t : Nat) (hl : ∀ s ∈ l, s < 64) (ht : t < 64) :
    getBit (l.foldl setBit acc) t = (getBit acc t || decide (t ∈ l)) := by
  induction l generalizing acc with
  | nil => simp
  | cons s l ih =>
    simp only [List.foldl_cons]
    rw [ih _ (fun x hx => hl x (List.mem_cons_of_mem _ hx)), getBit_setBit _ _ _ (hl s (List.mem_cons_self ..)) ht]
    simp only [List.mem_cons, Bool.or_assoc, Bool.decide_or, eq_comm (a := t)]

theorem getBit_toBits (l : List Nat) (t : Nat) (hl : ∀ s ∈ l, s < 64) (ht : t < 64) :
    getBit (Spec.toBits l) t = decide (t ∈ l) := by
  unfold Spec.toBits
  rw [getBit_foldl_setBit l 0 t hl ht, getBit_zero t ht]
  simp

theorem toBits_append (l₁ l₂ : List Nat) (h₁ : ∀ s ∈ l₁, s < 64) (h₂ : ∀ s ∈ l₂, s < 64) :
    Spec.toBits (l₁ ++ l₂) = Spec.toBits l₁ ||| Spec.toBits l₂ := by
  apply ext_getBit; intro t ht
  rw [getBit_or _ _ _ ht, getBit_toBits _ _ h₁ ht, getBit_toBits _ _ h₂ ht,
    getBit_toBits _ _ (fun s hs => (List.mem_append.1 hs).elim (h₁ s) (h₂ s)) ht, ← Bool.decide_or]
  exact decide_eq_decide.2 List.mem_append

theorem onBoard_iff (f r : Int) : Spec.onBoard f r = true ↔ 0 ≤ f ∧ f ≤ 7 ∧ 0 ≤ r ∧ r ≤ 7 := by
  simp only [Spec.onBoard, Bool.and_eq_true, decide_eq_true_eq]
  omega

theorem sqOf_lt (f r : Int) (h : Spec.onBoard f r = true) : Spec.sqOf f r < 64 := by
  rw [onBoard_iff] at h
  unfold Spec.sqOf
  omega

theorem onBoard_sq (sq : Nat) (hsq : sq < 64) : Spec.onBoard (Spec.fileOf sq) (Spec.rowOf sq) = true := by
  rw [onBoard_iff]
  unfold Spec.fileOf Spec.rowOf
  omega

theorem file_row_sqOf (f r : Int) (h : Spec.onBoard f r = true) : Spec.fileOf (Spec.sqOf f r) = f ∧ Spec.rowOf (Spec.sqOf f r) = r := by
  rw [onBoard_iff] at h
  unfold Spec.fileOf Spec.rowOf Spec.sqOf
  omega

theorem sqOf_file_row (s : Nat) : Spec.sqOf (Spec.fileOf s) (Spec.rowOf s) = s := by
  unfold Spec.fileOf Spec.rowOf Spec.sqOf; omega

theorem sqOf_inj (f r f' r' : Int) (h1 : Spec.onBoard f r = true) (h2 : Spec.onBoard f' r' = true)
    (h : Spec.sqOf f r = Spec.sqOf f' r') : f = f' ∧ r = r' := by
  rw [onBoard_iff] at h1 h2
  unfold Spec.sqOf at h
  omega

end Jence
