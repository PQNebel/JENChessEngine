/-
  The search as a sequence of primitive steps on the environment. `Steps P I`: the relation `I` between an environment
  and a later one contains every primitive step `search.rs` makes, under the condition in which the program makes it
  (tables written only while not stopping; a node counted only after `maybe_poll`; one ply down and up around every
  child). One traversal of the helpers of `Model/Search.lean` then gives `I` across `quiescence`, `negamax` and `idLoop`,
  up to the end of the deepening loop (`searchLoopEnd_steps`; the end hook and the `bestmove` line that follow are not
  steps: `search_eq`); every invariant of the search that does not speak about the returned value is an instance.
  `P` switches the ply bounds on: with `P` true the program's ply-cap tests are handed to `I` as premises (`ply ≤ 63`
  where the capture search descends, `ply ≤ 62` where the main search does), which the traversal can supply only if
  `I` restores the ply (`hply`).
  The walks of this and the other files take their arguments in one order: what is assumed of the steps (`S`, `hply`);
  the rules and the configuration; the recursive call and what is known of it (`rec`, `hrec`); then the helper's own
  arguments in the model's order, the environment last. The value walk of `Lemmas/NVal` has `{R}` and `{rec}` implicit.
-/
import Jence.Lemmas.SearchNF
namespace Jence
open Jence

structure QSteps (P : Prop) (I : Env → Env → Prop) : Prop where
  refl : ∀ e, I e e
  trans : ∀ {a b c}, I a b → I b c → I a c
  /-- what the hooks touch -/
  ghost : ∀ e dg n lg ps, I e { e with digest := dg, events := n, log := lg, postStopWrites := ps }
  /-- a poll of a running search (a stopped one does not poll): the poll log gains the node counter, the one line it
      can print is the answer to `isready`. Binders: `po` polls, `ch` chan, `dg` digest, `n` events, `lg` log,
      `st` stopping, `ou` out, `de` deferred -/
  pollRun : ∀ e po ch dg n lg st ou de, e.stopping = false → (ou = e.out ∨ ou = e.out.push "readyok") →
    I e { e with polls := po, pollLog := e.pollLog.push e.nodes, chan := ch, digest := dg, events := n, log := lg,
                 stopping := st, out := ou, deferred := de }
  count : ∀ e, Polled e → I e { e with nodes := e.nodes + 1 }
  flags : ∀ e (a b : Bool), I e { e with followPv := a, scorePv := b }
  /-- `make_search_move` pushes the child's key, `move_back` pops it -/
  pushPop : ∀ e k e2, (P → e.ply ≤ 63) → I { e with rep := e.rep.insert k, ply := e.ply + 1 } e2 →
    I e { e2 with ply := e2.ply - 1, rep := e2.rep.moveBack }

/-- the steps of the whole search: those of the capture search, and what only the main search does. `P` is true only
    where `Safe` needs the ply bounds (`Lemmas/NoOverflow`) -/
structure Steps (P : Prop) (I : Env → Env → Prop) : Prop extends QSteps P I where
  pvLen : ∀ e, I e { e with pvLen := e.pvLen.setIfInBounds e.ply e.ply }
  ttHit : ∀ e, I e { e with ttHits := e.ttHits + 1 }
  /-- in `negamax` the child's key is popped before the child is searched (the slot keeps it) -/
  child : ∀ e k e2, (P → e.ply ≤ 62) → I { e with ply := e.ply + 1, rep := (e.rep.insert k).moveBack } e2 →
    I e { e2 with ply := e2.ply - 1 }
  null : ∀ e e2, (P → e.ply ≤ 62) → I { e with ply := e.ply + 1 } e2 → I e { e2 with ply := e2.ply - 1 }
  /-- the cells `insert_pv_node` writes -/
  pv : ∀ e m, e.stopping = false →
    I e { e with pv := (Env.pvInsert e.pv e.pvLen e.ply m).1, pvLen := (Env.pvInsert e.pv e.pvLen e.ply m).2 }
  /-- written only while the search is running; the transposition table by `TT.record` alone, the output by `print` alone -/
  tables : ∀ e ks h, e.stopping = false → I e { e with killers := ks, history := h }
  record : ∀ e k s d f, e.stopping = false → I e { e with tt := e.tt.record k s d f e.ply }
  print : ∀ e l, e.stopping = false → I e (e.print l)

/-- the count of legal moves, if the move loop ran to the end (`finish` reads it) -/
def LoopOut.doneLegal : LoopOut → Option Nat
  | .done _ _ legal => some legal
  | .ret _ => none

theorem plyEq_steps (P : Prop) : Steps P fun e e' => e'.ply = e.ply where
  refl _ := rfl
  trans h1 h2 := h2.trans h1
  ghost _ _ _ _ _ := rfl
  pollRun _ _ _ _ _ _ _ _ _ _ _ := rfl
  count _ _ := rfl
  flags _ _ _ := rfl
  pushPop e _ e2 _ h := by have : e2.ply = e.ply + 1 := h; show e2.ply - 1 = e.ply; omega
  pvLen _ := rfl
  ttHit _ := rfl
  child e _ e2 _ h := by have : e2.ply = e.ply + 1 := h; show e2.ply - 1 = e.ply; omega
  null e e2 _ h := by have : e2.ply = e.ply + 1 := h; show e2.ply - 1 = e.ply; omega
  pv _ _ _ := rfl
  tables _ _ _ _ := rfl
  record _ _ _ _ _ _ := rfl
  print _ _ _ := rfl

section walk
variable {P : Prop} {I : Env → Env → Prop}

theorem QSteps.and {J : Env → Env → Prop} (S : QSteps P I) (T : QSteps P J) : QSteps P fun e e' => I e e' ∧ J e e' where
  refl e := ⟨S.refl e, T.refl e⟩
  trans h1 h2 := ⟨S.trans h1.1 h2.1, T.trans h1.2 h2.2⟩
  ghost e dg n lg ps := ⟨S.ghost e dg n lg ps, T.ghost e dg n lg ps⟩
  pollRun e po ch dg n lg st ou de hr ho := ⟨S.pollRun e po ch dg n lg st ou de hr ho, T.pollRun e po ch dg n lg st ou de hr ho⟩
  count e h := ⟨S.count e h, T.count e h⟩
  flags e a b := ⟨S.flags e a b, T.flags e a b⟩
  pushPop e k e2 hp h := ⟨S.pushPop e k e2 hp h.1, T.pushPop e k e2 hp h.2⟩

theorem Steps.and {J : Env → Env → Prop} (S : Steps P I) (T : Steps P J) : Steps P fun e e' => I e e' ∧ J e e' where
  toQSteps := S.toQSteps.and T.toQSteps
  pvLen e := ⟨S.pvLen e, T.pvLen e⟩
  ttHit e := ⟨S.ttHit e, T.ttHit e⟩
  child e k e2 hp h := ⟨S.child e k e2 hp h.1, T.child e k e2 hp h.2⟩
  null e e2 hp h := ⟨S.null e e2 hp h.1, T.null e e2 hp h.2⟩
  pv e m hr := ⟨S.pv e m hr, T.pv e m hr⟩
  tables e ks h hr := ⟨S.tables e ks h hr, T.tables e ks h hr⟩
  record e k s d f hr := ⟨S.record e k s d f hr, T.record e k s d f hr⟩
  print e l hr := ⟨S.print e l hr, T.print e l hr⟩

theorem QSteps.ev (S : QSteps P I) (cfg : Cfg) (e : Env) (w : List UInt64) (l : Unit → String) : I e (e.ev cfg w l) := by
  rw [ev_same]; exact S.ghost e _ _ _ e.postStopWrites

theorem QSteps.poll (S : QSteps P I) (cfg : Cfg) (e : Env) : I e (e.maybePoll cfg) := by
  rw [maybePoll_def]
  split
  · cases hs : e.stopping
    · obtain ⟨_, _, _, _, _, _, _, ho, h⟩ := poll_running_eq cfg e hs
      rw [h]; exact S.pollRun e _ _ _ _ _ _ _ _ hs ho
    · rw [poll_stopped cfg e hs]; exact S.refl e
  · exact S.refl e

theorem QSteps.onNode (S : QSteps P I) (cfg : Cfg) (e : Env) (k : Nat) (g : Game) (d : Nat) (a b : Int) : I e (e.onNode cfg k g d a b) := by
  unfold Env.onNode
  split
  · exact S.refl e
  · exact S.ev ..

theorem QSteps.sortMoves (S : QSteps P I) (g : Game) (ms : List Move) (e : Env) : I e (sortMoves g ms e).2 := by
  rw [sortMoves_same]; exact S.flags e e.followPv _

theorem qLoop_steps (S : QSteps P I) (hply : P → ∀ {e e'}, I e e' → e'.ply = e.ply) (R : Rules) (rec : Game → Int → Int → Env → Int × Env)
    (hrec : ∀ c a b e, I e (rec c a b e).2) (g : Game) (beta : Int) :
    ∀ (ms : List Move) (ta : Int) (e : Env), (P → e.ply ≤ 63) → I e (qLoop R rec g beta ms ta e).2 := by
  intro ms
  induction ms with
  | nil => intro ta e _; exact S.refl e
  | cons m ms ih =>
    intro ta e hp
    dsimp only [qLoop]
    cases R.make g m with
    | none => exact ih ta e hp
    | some c =>
      dsimp only
      have hf := hrec c (-beta) (-ta) { e with rep := e.rep.insert c.key, ply := e.ply + 1 }
      generalize rec c (-beta) (-ta) { e with rep := e.rep.insert c.key, ply := e.ply + 1 } = r at hf
      have h3 := S.pushPop e c.key r.2 hp hf
      split
      · exact h3
      · exact S.trans h3 (ih _ _ fun hP => by rw [hply hP h3]; exact hp hP)

theorem qEnter_steps (S : QSteps P I) (cfg : Cfg) (g : Game) (alpha beta : Int) (e : Env) : I e (qEnter cfg g alpha beta e) :=
  S.trans (S.trans (S.onNode cfg e 2 g 0 alpha beta) (S.poll cfg _)) (S.count _ (polled_maybePoll cfg _))

theorem quiescence_steps (S : QSteps P I) (hply : P → ∀ {e e'}, I e e' → e'.ply = e.ply) (R : Rules) (cfg : Cfg) :
    ∀ fuel g alpha beta e, I e (quiescence R cfg fuel g alpha beta e).2 := by
  intro fuel
  induction fuel with
  | zero => intro g a b e; exact S.refl e
  | succ fuel ih =>
    intro g alpha beta e
    dsimp only [quiescence]
    have h3 := qEnter_steps S cfg g alpha beta e
    generalize qEnter cfg g alpha beta e = e3 at h3
    by_cases hcut : (decide (e3.ply > Gen.MAX_PLY - 1) || g.halfMoves == 100) = true
    · rw [if_pos hcut]; exact h3
    · rw [if_neg hcut]
      have hle : e3.ply ≤ 63 := by
        have : Gen.MAX_PLY = 64 := rfl
        simp only [Bool.or_eq_true, decide_eq_true_eq, not_or] at hcut; omega
      split
      · exact h3
      · have h4 := S.sortMoves g (R.generate g false) e3
        exact S.trans (S.trans h3 h4) (qLoop_steps S hply R _ (ih) g beta _ _ _ fun hP => by rw [hply hP h4]; exact hle)

/-- the (possibly reduced) first probe of a later move -/
theorem firstProbe_steps (hrefl : ∀ e, I e e) {rec : Game → Nat → Int → Int → Env → Int × Env} (hrec : ∀ c d a b e, I e (rec c d a b e).2)
    {c : Game} {d : Nat} {a b v s2 : Int} {e e2 : Env} {C : Prop} [Decidable C]
    (h : (if C then (match rec c d a b e with | (s, e) => (-s, e)) else (v, e)) = (s2, e2)) : I e e2 := by
  split at h
  · rw [← show (rec c d a b e).2 = e2 from congrArg Prod.snd h]; exact hrec c d a b e
  · rw [← (Prod.mk.inj h).2]; exact hrefl e

/-- the PVS cascade makes no primitive step of its own: any reflexive, transitive relation that holds across the recursive
    call will do, so it asks for no `Steps` -/
theorem searchChild_steps (hrefl : ∀ e, I e e) (htrans : ∀ {a b c}, I a b → I b c → I a c)
    (rec : Game → Nat → Int → Int → Env → Int × Env) (hrec : ∀ c d a b e, I e (rec c d a b e).2) (c : Game) (m : Move)
    (searched depth nDepth : Nat) (inCheck : Bool) (ta beta : Int) (e : Env) :
    I e (searchChild rec c m searched depth nDepth inCheck ta beta e).2 := by
  have one : ∀ {d a b e s e'}, rec c d a b e = (s, e') → I e e' := fun {d a b e s e'} h => by
    rw [← show (rec c d a b e).2 = e' from congrArg Prod.snd h]; exact hrec c d a b e
  fun_cases searchChild
  next _ s e1 h1 => exact one h1
  next _ s2 e2 h2 _ s1 e1 h1 _ _ s0 e0 h0 => exact htrans (htrans (firstProbe_steps hrefl hrec h2) (one h1)) (one h0)
  next _ s2 e2 h2 _ s1 e1 h1 _ _ => exact htrans (firstProbe_steps hrefl hrec h2) (one h1)
  next _ s2 e2 h2 _ => exact firstProbe_steps hrefl hrec h2

theorem Steps.insertPv (S : Steps P I) (cfg : Cfg) (e : Env) (m : Move) (hr : e.stopping = false) : I e (e.insertPv cfg m) := by
  rw [insertPv_same]; exact S.trans (S.pv e m hr) (S.ghost _ _ _ _ _)

theorem Steps.ttRecord (S : Steps P I) (cfg : Cfg) (e : Env) (k : UInt64) (s : Int) (d : Nat) (f : Flag) (hr : e.stopping = false) :
    I e (e.ttRecord cfg k s d f) := by
  rw [ttRecord_same]; exact S.trans (S.record e k s d f hr) (S.ghost _ _ _ _ _)

theorem Steps.raised (S : Steps P I) (cfg : Cfg) (e : Env) (m : Move) (depth : Nat) (hr : e.stopping = false) :
    I e (e.raised cfg m depth) := by
  unfold Env.raised
  have hr4 : (e.insertPv cfg m).stopping = false := by rw [insertPv_same]; exact hr
  split
  · exact S.trans (S.insertPv cfg e m hr) (S.tables _ _ _ hr4)
  · exact S.insertPv cfg e m hr

theorem Steps.cut (S : Steps P I) (cfg : Cfg) (e : Env) (g : Game) (m : Move) (depth : Nat) (beta : Int) (hr : e.stopping = false) :
    I e (e.cut cfg g m depth beta) := by
  unfold Env.cut
  have hr4 : (e.insertPv cfg m).stopping = false := by rw [insertPv_same]; exact hr
  split
  · exact S.trans (S.trans (S.insertPv cfg e m hr) (S.tables _ _ _ hr4)) (S.ttRecord cfg _ _ _ _ _ hr4)
  · exact S.trans (S.insertPv cfg e m hr) (S.ttRecord cfg _ _ _ _ _ hr4)

theorem nullMoveStep_steps (S : Steps P I) (R : Rules) (rec : Game → Nat → Int → Int → Env → Int × Env)
    (hrec : ∀ c d a b e, I e (rec c d a b e).2) (g : Game) (nDepth : Nat) (inCheck : Bool) (beta : Int) (e : Env)
    (hp : P → e.ply ≤ 62) : I e (nullMoveStep R rec g nDepth inCheck beta e).2 := by
  have key : ∀ {s : Int} {e2 : Env}, rec (R.nullMove g) (nDepth - 1 - 2) (-beta) (-beta + 1) { e with ply := e.ply + 1 } = (s, e2) →
      I e { e2 with ply := e2.ply - 1 } := fun {_ e2} h => by
    have h2 := hrec (R.nullMove g) (nDepth - 1 - 2) (-beta) (-beta + 1) { e with ply := e.ply + 1 }
    rw [h] at h2
    exact S.null e e2 hp h2
  -- the cases: stopped after the null search; it fails high; it does not; no null move tried
  fun_cases nullMoveStep
  next _ _ _ _ _ h _ _ => exact key h
  next _ _ _ _ _ h _ _ _ _ => exact key h
  next _ _ _ _ _ h _ _ _ _ => exact key h
  next => exact S.refl e

theorem finish_steps (S : Steps P I) (cfg : Cfg) (g : Game) (depth : Nat) (inCheck : Bool) (out : LoopOut) (e : Env)
    (hs : ∀ lg, out.doneLegal = some lg → 0 < lg → e.stopping = false) :
    I e (finish cfg g depth inCheck (out, e)).2 := by
  cases out with
  | ret v => exact S.refl e
  | done ta flag legal =>
    dsimp only [finish]
    split
    · exact S.ev cfg e _ fun _ => _
    · rename_i hl
      exact S.ttRecord cfg e g.key ta depth flag (hs legal rfl (Nat.pos_of_ne_zero (by simpa using hl)))

/-- the second conjunct - a loop that ran to the end after a legal move was not stopped - is what lets `finish` write its
    table record -/
theorem moveLoop_steps (S : Steps P I) (hply : P → ∀ {e e'}, I e e' → e'.ply = e.ply) (R : Rules) (cfg : Cfg)
    (rec : Game → Nat → Int → Int → Env → Int × Env)
    (hrec : ∀ c d a b e, I e (rec c d a b e).2) (g : Game) (depth nDepth : Nat) (inCheck : Bool) (beta : Int)
    (ms : List Move) (ta : Int) (flag : Flag) (legal searched : Nat) (e : Env) : (P → e.ply ≤ 62) →
      (0 < legal → e.stopping = false) →
      I e (moveLoop R cfg rec g depth nDepth inCheck beta ms ta flag legal searched e).2 ∧
      (∀ lg, (moveLoop R cfg rec g depth nDepth inCheck beta ms ta flag legal searched e).1.doneLegal = some lg →
        0 < lg → (moveLoop R cfg rec g depth nDepth inCheck beta ms ta flag legal searched e).2.stopping = false) := by
  have child : ∀ {c : Game} {m : Move} {searched : Nat} {ta s : Int} {e e2 : Env}, (P → e.ply ≤ 62) →
      searchChild rec c m searched depth nDepth inCheck ta beta { e with ply := e.ply + 1, rep := (e.rep.insert c.key).moveBack } = (s, e2) →
      I e { e2 with ply := e2.ply - 1 } := fun {c m searched ta s e e2} hp hsc => by
    have h := searchChild_steps S.refl S.trans rec hrec c m searched depth nDepth inCheck ta beta
      { e with ply := e.ply + 1, rep := (e.rep.insert c.key).moveBack }
    rw [hsc] at h
    exact S.child e c.key e2 hp h
  have up : ∀ {e e' : Env}, (P → e.ply ≤ 62) → I e e' → P → e'.ply ≤ 62 := fun hp h hP => by rw [hply hP h]; exact hp hP
  fun_induction moveLoop R cfg rec g depth nDepth inCheck beta ms ta flag legal searched e
  -- the cases, in the order of the loop: no move left; `make` fails; stopped after the child; cut-off; the move raises alpha; it does not
  next => exact fun _ hl => ⟨S.refl _, fun lg h hpos => by cases h; exact hl hpos⟩
  next ih => exact ih
  next hsc e3 _ => exact fun hp _ => ⟨child hp hsc, fun lg h => by cases h⟩
  next m ms _ _ _ _ e c _ e1 s e2 hsc e3 hrun _ e4 _ e5 e6 =>
    intro hp _
    have h3 := child hp hsc
    exact ⟨S.trans h3 (S.cut cfg e3 g m depth beta (by simpa using hrun)), fun lg h => by cases h⟩
  next m ms _ _ _ _ e c _ e1 s e2 hsc e3 hrun _ e4 _ e5 ih =>
    intro hp _
    have hr3 : e3.stopping = false := by simpa using hrun
    have h5 := S.trans (child hp hsc) (S.raised cfg e3 m depth hr3)
    obtain ⟨i1, i2⟩ := ih (up hp h5) (fun _ => (raised_stopping cfg e3 m depth).trans hr3)
    exact ⟨S.trans h5 i1, i2⟩
  next hsc e3 hrun _ ih =>
    intro hp _
    have h3 := child hp hsc
    obtain ⟨i1, i2⟩ := ih (up hp h3) (fun _ => by simpa using hrun)
    exact ⟨S.trans h3 i1, i2⟩

theorem searchMoves_steps (S : Steps P I) (hply : P → ∀ {e e'}, I e e' → e'.ply = e.ply) (R : Rules) (cfg : Cfg)
    (rec : Game → Nat → Int → Int → Env → Int × Env)
    (hrec : ∀ c d a b e, I e (rec c d a b e).2) (g : Game) (depth nDepth : Nat) (inCheck : Bool) (alpha beta : Int) (e : Env)
    (hp : P → e.ply ≤ 62) : I e (searchMoves R cfg rec g depth nDepth inCheck alpha beta e).2 := by
  obtain ⟨ms, a, b, _, h⟩ := searchMoves_eq R cfg rec g depth nDepth inCheck alpha beta e
  rw [h]
  obtain ⟨h8, h8s⟩ := moveLoop_steps S hply R cfg rec hrec g depth nDepth inCheck beta ms alpha Flag.alpha 0 0 { e with followPv := a, scorePv := b }
    hp (fun h => absurd h (Nat.lt_irrefl 0))
  exact S.trans (S.trans (S.flags e a b) h8) (finish_steps S cfg g depth inCheck _ _ h8s)

theorem expand_steps (S : Steps P I) (hply : P → ∀ {e e'}, I e e' → e'.ply = e.ply) (R : Rules) (cfg : Cfg)
    (rec : Game → Nat → Int → Int → Env → Int × Env)
    (hrec : ∀ c d a b e, I e (rec c d a b e).2) (g : Game) (depth : Nat) (alpha beta : Int) (e : Env)
    (hp : P → e.ply ≤ 62) (hpo : Polled e) : I e (expand R cfg rec g depth alpha beta e).2 := by
  unfold expand
  dsimp only
  have h4 := S.count e hpo
  generalize ({ e with nodes := e.nodes + 1 } : Env) = e4 at h4
  have hp4 : P → e4.ply ≤ 62 := fun hP => by rw [hply hP h4]; exact hp hP
  have hn := S.trans h4 (nullMoveStep_steps S R rec hrec g (if R.inCheck g then depth + 1 else depth) (R.inCheck g) beta e4 hp4)
  generalize nullMoveStep R rec g (if R.inCheck g then depth + 1 else depth) (R.inCheck g) beta e4 = no at hn
  obtain ⟨nv, e5⟩ := no
  cases nv with
  | some v => exact hn
  | none => exact S.trans hn (searchMoves_steps S hply R cfg rec hrec g depth _ _ alpha beta e5 fun hP => by rw [hply hP hn]; exact hp hP)

theorem afterProbe_steps (S : Steps P I) (hply : P → ∀ {e e'}, I e e' → e'.ply = e.ply) (R : Rules) (cfg : Cfg)
    (rec : Game → Nat → Int → Int → Env → Int × Env)
    (hrec : ∀ c d a b e, I e (rec c d a b e).2) (g : Game) (depth : Nat) (alpha beta : Int) (e : Env) :
    I e (afterProbe R cfg rec g depth alpha beta e).2 := by
  have h2 := S.pvLen e
  fun_cases afterProbe
  next => exact h2
  next e2 hcap e3 _ => exact S.trans (S.trans h2 (S.poll cfg e2)) (quiescence_steps S.toQSteps hply R cfg qFuel g alpha beta e3)
  next e2 hcap e3 _ =>
    have hle : e2.ply ≤ 62 := by have : Gen.MAX_PLY = 64 := rfl; have : ¬ e.ply ≥ Gen.MAX_PLY - 1 := hcap; omega
    exact S.trans (S.trans h2 (S.poll cfg e2)) (expand_steps S hply R cfg rec hrec g depth alpha beta e3
      (fun hP => Nat.le_trans (Nat.le_of_eq (hply hP (S.poll cfg e2))) hle) (polled_maybePoll cfg e2))

theorem negamax_steps (S : Steps P I) (hply : P → ∀ {e e'}, I e e' → e'.ply = e.ply) (R : Rules) (cfg : Cfg) :
    ∀ fuel g depth alpha beta e, I e (negamax R cfg fuel g depth alpha beta e).2 := by
  intro fuel
  induction fuel with
  | zero => intro g d a b e; exact S.refl e
  | succ fuel ih =>
    intro g depth alpha beta e
    dsimp only [negamax]
    have h1 := S.onNode cfg e 1 g depth alpha beta
    generalize e.onNode cfg 1 g depth alpha beta = e1 at h1
    split
    · exact S.trans h1 (S.trans (S.ev cfg e1 _ _) (S.pvLen _))
    · split
      · exact S.trans h1 (S.trans (S.ev cfg e1 _ _) (S.ttHit _))
      · exact S.trans h1 (afterProbe_steps S hply R cfg _ ih g depth alpha beta e1)

theorem idLoop_steps (S : Steps P I) (hply : P → ∀ {e e'}, I e e' → e'.ply = e.ply) (R : Rules) (cfg : Cfg) (g : Game)
    (count cur : Nat) (alpha beta score : Int) (e : Env) : I e (idLoop R cfg g count cur alpha beta score e).2.2 := by
  have one : ∀ {cur : Nat} {alpha beta s : Int} {e e2 : Env},
      negamax R cfg negaFuel g cur alpha beta { e with followPv := true } = (s, e2) → I e e2 := fun {cur alpha beta s e e2} h => by
    have hn := S.trans (S.flags e true e.scorePv) (negamax_steps S hply R cfg negaFuel g cur alpha beta { e with followPv := true })
    rw [h] at hn; exact hn
  fun_induction idLoop R cfg g count cur alpha beta score e
  next => exact S.refl _
  next h _ => exact one h
  next h _ _ ih => exact S.trans (one h) ih
  next e2 h hs _ _ ih => exact S.trans (S.trans (one h) (S.print e2 _ (by simpa using hs))) ih

end walk

theorem searchLoopEnd_steps {P : Prop} {I : Env → Env → Prop} (S : Steps P I)
    (hply : P → ∀ {e e'}, I e e' → e'.ply = e.ply) (R : Rules) (cfg : Cfg) (g : Game) (depth : Int) (tt : TT) (rep : RepTable) :
    I (Env.fresh tt rep) (searchLoopEnd R cfg g depth tt rep).2.2 :=
  idLoop_steps S hply R cfg g _ 1 (-Gen.INFINITY) Gen.INFINITY 0 (Env.fresh tt rep)

end Jence
