/-
  The PEXT-indexed table lookup equals the on-the-fly ray loops for every square and every occupancy:
  `SLIDING_ATTACKS[offset[sq] + pext(occ, mask[sq])] = onTheFly sq occ`.
  Ingredients: where a block sits in the concatenated table (offsets = prefix sums), what entry `i` of a block holds
  (`onTheFly sq (pdep i mask)`), `pdep (pext occ mask) mask = occ &&& mask`, and edge irrelevance.
-/
import Jence.Lemmas.PextPdep
import Jence.Lemmas.EdgeMask
import Jence.Lemmas.ListExtra
namespace Jence
open Jence

/-- the table that `build.rs` fills block after block: `init` followed by `blk 0`, …, `blk (n - 1)` -/
def buildBlocks {α : Type} (blk : Nat → Array α) (init : Array α) (n : Nat) : Array α :=
  (Array.range n).foldl (fun acc sq => acc ++ blk sq) init

/-- the sum of the first `n` sizes: where block `n` starts -/
def szSum (sz : Nat → Nat) : Nat → Nat
  | 0 => 0
  | n + 1 => szSum sz n + sz n

theorem szSum_succ (sz : Nat → Nat) (n : Nat) : szSum sz (n + 1) = szSum sz n + sz n := rfl

theorem szSum_congr {f g : Nat → Nat} : ∀ n, (∀ i, i < n → f i = g i) → szSum f n = szSum g n
  | 0, _ => rfl
  | n + 1, h => by rw [szSum_succ, szSum_succ, szSum_congr n fun i hi => h i (by omega), h n (by omega)]

theorem szSum_mono (blk : Nat → Nat) : ∀ a b, a ≤ b → szSum blk a ≤ szSum blk b := by
  intro a b hab
  induction b with
  | zero => have : a = 0 := by omega
            subst this; exact Nat.le_refl _
  | succ b ihb =>
    by_cases hab' : a = b + 1
    · subst hab'; exact Nat.le_refl _
    · have := ihb (by omega); rw [szSum_succ]; omega

section blocks
variable {α : Type} (blk : Nat → Array α) (init : Array α)

theorem buildBlocks_succ (n : Nat) :
    buildBlocks blk init (n + 1) = buildBlocks blk init n ++ blk n := by
  unfold buildBlocks
  rw [Array.range_succ, Array.foldl_append]
  simp

theorem buildBlocks_zero : buildBlocks blk init 0 = init := by
  simp [buildBlocks, Array.range]

theorem buildBlocks_size (n : Nat) :
    (buildBlocks blk init n).size = init.size + szSum (fun i => (blk i).size) n := by
  induction n with
  | zero => simp [buildBlocks, szSum, Array.range]
  | succ n ih => rw [buildBlocks_succ, Array.size_append, ih, szSum_succ]; omega

theorem buildBlocks_stable (d : α) (m idx : Nat)
    (h : idx < (buildBlocks blk init m).size) : ∀ n, m ≤ n → (buildBlocks blk init n).getD idx d = (buildBlocks blk init m).getD idx d := by
  intro n hn
  induction n with
  | zero => have : m = 0 := by omega
            subst this; rfl
  | succ n ih =>
    by_cases hmn : m = n + 1
    · subst hmn; rfl
    · rw [buildBlocks_succ, getD_append_left _ _ _ _ (by
        have := buildBlocks_size blk init n
        have h2 := buildBlocks_size blk init m
        have hmono := szSum_mono (fun i => (blk i).size) m n (by omega)
        omega)]
      exact ih (by omega)

theorem buildBlocks_entry (d : α) (n sq i : Nat) (hsq : sq < n)
    (hi : i < (blk sq).size) : (buildBlocks blk init n).getD (init.size + szSum (fun i => (blk i).size) sq + i) d = (blk sq).getD i d := by
  have hsz := buildBlocks_size blk init sq
  rw [buildBlocks_stable blk init d (sq + 1) _ (by rw [buildBlocks_size, szSum_succ]; omega) n (by omega)]
  rw [buildBlocks_succ, ← hsz, getD_append_right]

theorem getD_buildBlocks_init (d : α) (idx n : Nat) (h : idx < init.size) :
    (buildBlocks blk init n).getD idx d = init.getD idx d := by
  rw [buildBlocks_stable blk init d 0 idx (by rw [buildBlocks_zero]; exact h) n (Nat.zero_le n), buildBlocks_zero]

end blocks

def rookBlock (sq : Nat) : Array UInt64 := blockOf rookAttacksOnTheFly (ROOK_MASK.getD sq 0) sq
def bishopBlock (sq : Nat) : Array UInt64 := blockOf bishopAttacksOnTheFly (BISHOP_MASK.getD sq 0) sq

theorem sliding_eq : SLIDING_ATTACKS = buildBlocks bishopBlock (buildBlocks rookBlock #[] 64) 64 := rfl

theorem blockOf_size (f : Nat → UInt64 → UInt64) (mask : UInt64) (sq : Nat) : (blockOf f mask sq).size = 2 ^ popCount mask := by
  simp [blockOf]

theorem blockOf_getD (f : Nat → UInt64 → UInt64) (mask : UInt64) (sq i : Nat) (h : i < 2 ^ popCount mask) :
    (blockOf f mask sq).getD i 0 = f sq (pdep i.toUInt64 mask) := by
  simp [blockOf, Array.getD_eq_getD_getElem?, h]

/-- a block has one entry for every subset of its mask -/
def blockSize (masks : Array UInt64) (n : Nat) : Nat := 2 ^ popCount (masks.getD n 0)

theorem offsetsFrom_spec (masks : Array UInt64) (start : Nat) :
    (∀ j, j < masks.size → (offsetsFrom masks start).1.getD j 0 = start + szSum (blockSize masks) j) ∧
    (offsetsFrom masks start).2 = start + szSum (blockSize masks) masks.size := by
  have := Array.foldl_induction (as := masks)
    (motive := fun i (p : Array Nat × Nat) => p.1.size = i ∧ p.2 = start + szSum (blockSize masks) i ∧
      ∀ j, j < i → p.1.getD j 0 = start + szSum (blockSize masks) j)
    (init := (#[], start)) (f := fun (acc, off) m => (acc.push off, off + 2 ^ popCount m))
    ⟨rfl, rfl, fun j hj => by omega⟩
    (fun i b ⟨h1, h2, h3⟩ => by
      refine ⟨by simp [h1], ?_, fun j hj => ?_⟩
      · have : masks[i] = masks.getD i 0 := by simp [Array.getD_eq_getD_getElem?]
        simp only [szSum_succ, blockSize, h2, this]; omega
      · by_cases hji : j = i
        · subst hji; simp [Array.getD_eq_getD_getElem?, ← h1, h2]
        · have hj' : j < b.1.size := by omega
          have := h3 j (by omega)
          simp only [Array.getD_eq_getD_getElem?, Array.getElem?_eq_getElem hj'] at this
          simp only [Array.getD_eq_getD_getElem?]
          rw [Array.getElem?_push_lt hj']; exact this)
  exact ⟨this.2.2, this.2.1⟩

theorem mask_sizes : ROOK_MASK.size = 64 ∧ BISHOP_MASK.size = 64 := by simp [ROOK_MASK, BISHOP_MASK]

/-- summed over the mask functions: reading a mask out of the 64-entry array makes the kernel map the whole array again -/
theorem table_total :
    szSum (fun n => 2 ^ popCount (rookMaskOf n)) 64 + szSum (fun n => 2 ^ popCount (bishopMaskOf n)) 64 = 107648 := by decide +kernel

-- `ROOK_OFFSETS` is unfolded by `rw`, never by `rfl` or `exact`: a unifier asked whether it is `(offsetsFrom ROOK_MASK 0).1`
-- may evaluate the masks
theorem rook_offset (sq : Nat) (h : sq < 64) : ROOK_OFFSETS.getD sq 0 = szSum (blockSize ROOK_MASK) sq := by
  rw [ROOK_OFFSETS, (offsetsFrom_spec ROOK_MASK 0).1 sq (mask_sizes.1 ▸ h), Nat.zero_add]

theorem rook_end : (offsetsFrom ROOK_MASK 0).2 = szSum (blockSize ROOK_MASK) 64 := by
  rw [(offsetsFrom_spec ROOK_MASK 0).2, mask_sizes.1, Nat.zero_add]

theorem bishop_offset (sq : Nat) (h : sq < 64) :
    BISHOP_OFFSETS.getD sq 0 = szSum (blockSize ROOK_MASK) 64 + szSum (blockSize BISHOP_MASK) sq := by
  rw [BISHOP_OFFSETS, (offsetsFrom_spec BISHOP_MASK _).1 sq (mask_sizes.2 ▸ h), rook_end]

theorem table_size : szSum (blockSize ROOK_MASK) 64 + szSum (blockSize BISHOP_MASK) 64 = 107648 := by
  rw [szSum_congr 64 (f := blockSize ROOK_MASK) (g := fun n => 2 ^ popCount (rookMaskOf n)) fun i hi => by
      rw [blockSize, ROOK_MASK, getD_map_range _ i hi],
    szSum_congr 64 (f := blockSize BISHOP_MASK) (g := fun n => 2 ^ popCount (bishopMaskOf n)) fun i hi => by
      rw [blockSize, BISHOP_MASK, getD_map_range _ i hi]]
  exact table_total

/-- **a block table read through `pext`**, for any ray function and masks. Masks, blocks, start and index come as
    variables with equations (`hmasks`, `hblk`, `hstart`, `hidx`): a caller proves each by `rfl` or a `rw`, and the unifier is
    never asked to compare two tables, which it would do by evaluating them. -/
theorem block_lookup (f : Nat → UInt64 → UInt64) (maskOf : Nat → UInt64) (init : Array UInt64)
    (sq : Nat) (hsq : sq < 64) (occ : UInt64) (masks : Array UInt64) (hmasks : masks = (Array.range 64).map maskOf)
    (blk : Nat → Array UInt64) (hblk : blk = fun s => blockOf f (masks.getD s 0) s) (idx : Nat)
    (start : Nat) (hstart : start = init.size)
    (hidx : idx = (offsetsFrom masks start).1.getD sq 0 + (pext occ (masks.getD sq 0)).toNat) :
    idx < (buildBlocks blk init 64).size ∧ (buildBlocks blk init 64).getD idx 0 = f sq (occ &&& maskOf sq) := by
  have hb : (fun n => (blk n).size) = blockSize masks := funext fun n => by rw [hblk]; exact blockOf_size _ _ _
  subst hstart
  have hoff := (offsetsFrom_spec masks init.size).1 sq (by rw [hmasks]; simpa using hsq)
  have hlt := pext_lt occ (masks.getD sq 0)
  have hm : masks.getD sq 0 = maskOf sq := by rw [hmasks]; exact getD_map_range maskOf sq hsq
  rw [hidx, hoff]
  constructor
  · have := szSum_mono (blockSize masks) (sq + 1) 64 (by omega)
    rw [szSum_succ, blockSize] at this
    rw [buildBlocks_size, hb]; omega
  · rw [← hb, buildBlocks_entry blk init 0 64 sq _ hsq (by rw [congrFun hb sq]; exact hlt)]
    rw [hblk, blockOf_getD _ _ _ _ hlt, Nat.toUInt64, UInt64.ofNat_toNat, pdep_pext, hm]

theorem getRookAttacks_eq (sq : Nat) (hsq : sq < 64) (occ : UInt64) : getRookAttacks sq occ = rookAttacksOnTheFly sq occ := by
  obtain ⟨h1, h2⟩ := block_lookup rookAttacksOnTheFly rookMaskOf #[] sq hsq occ ROOK_MASK rfl rookBlock rfl
    (ROOK_OFFSETS.getD sq 0 + (pext occ (ROOK_MASK.getD sq 0)).toNat) 0 Array.size_empty.symm (by rw [ROOK_OFFSETS])
  unfold getRookAttacks
  rw [sliding_eq, getD_buildBlocks_init bishopBlock _ 0 _ 64 h1, h2]
  exact rook_mask_irrelevant sq occ

theorem rook_size : (buildBlocks rookBlock #[] 64).size = (offsetsFrom ROOK_MASK 0).2 := by
  rw [buildBlocks_size, rook_end, Array.size_empty, Nat.zero_add]
  exact congrArg (szSum · 64) (funext fun _ => blockOf_size _ _ _)

theorem getBishopAttacks_eq (sq : Nat) (hsq : sq < 64) (occ : UInt64) : getBishopAttacks sq occ = bishopAttacksOnTheFly sq occ := by
  obtain ⟨_, h2⟩ := block_lookup bishopAttacksOnTheFly bishopMaskOf (buildBlocks rookBlock #[] 64) sq hsq occ BISHOP_MASK rfl
    bishopBlock rfl (BISHOP_OFFSETS.getD sq 0 + (pext occ (BISHOP_MASK.getD sq 0)).toNat) _ rook_size.symm (by rw [BISHOP_OFFSETS])
  unfold getBishopAttacks
  rw [sliding_eq, ← bishop_mask_irrelevant, ← h2]

end Jence
