/-
  T5.2: the UCI string of a move determines the rules move it denotes (source square, target square, promotion kind):
  the square strings read back as their indices and the promotion letters tell the kinds, both evaluated by the kernel
  on the generated string tables.
-/
import Jence.Lemmas.Board
namespace Jence
open Jence

theorem sq_string_read : ∀ i, i < 64 → Spec.parseSquare (Gen.SQUARE_STRINGS.getD i "") = some i := by decide +kernel

theorem parseSquare_len {s : String} {i : Nat} (h : Spec.parseSquare s = some i) : s.toList.length = 2 := by
  unfold Spec.parseSquare at h
  split at h
  · rename_i e; rw [e]; rfl
  · cases h

theorem sq_string_len (i : Nat) (hi : i < 64) : ((Gen.SQUARE_STRINGS.getD i "").toList).length = 2 :=
  parseSquare_len (sq_string_read i hi)

theorem sq_string_inj (i : Nat) (hi : i < 64) (j : Nat) (hj : j < 64)
    (h : (Gen.SQUARE_STRINGS.getD i "").toList = (Gen.SQUARE_STRINGS.getD j "").toList) : i = j := by
  have hr := sq_string_read i hi
  rw [String.ext h, sq_string_read j hj] at hr
  exact (Option.some.inj hr).symm

/-- the promotion suffix of the UCI string tells the promotion kind -/
theorem promo_suffix_kind : ∀ p, p ≤ 12 → ∀ q, q ≤ 12 →
    (if p != PNONE then (Gen.PIECE_STRINGS.getD p "").toLower else "").toList =
      (if q != PNONE then (Gen.PIECE_STRINGS.getD q "").toLower else "").toList →
    (if p = PNONE then none else some (Spec.kindOfIndex p)) = (if q = PNONE then none else some (Spec.kindOfIndex q)) := by
  decide +kernel

theorem toUci_toList (m : Move) : m.toUci.toList =
    (Gen.SQUARE_STRINGS.getD m.fromSq "").toList ++ (Gen.SQUARE_STRINGS.getD m.toSq "").toList ++
      (if m.promotion != PNONE then (Gen.PIECE_STRINGS.getD m.promotion "").toLower else "").toList := by
  unfold Move.toUci
  rw [String.toList_append, String.toList_append]

theorem toUci_determines (m1 m2 : Move) (f1 : m1.fromSq < 64) (t1 : m1.toSq < 64) (f2 : m2.fromSq < 64) (t2 : m2.toSq < 64)
    (p1 : m1.promotion ≠ PNONE → m1.promotion < 12) (p2 : m2.promotion ≠ PNONE → m2.promotion < 12)
    (h : m1.toUci = m2.toUci) : smove m1 = smove m2 := by
  have hl := congrArg String.toList h
  rw [toUci_toList, toUci_toList, List.append_assoc, List.append_assoc] at hl
  obtain ⟨ha, hrest⟩ := List.append_inj hl (by rw [sq_string_len _ f1, sq_string_len _ f2])
  obtain ⟨hb, hc⟩ := List.append_inj hrest (by rw [sq_string_len _ t1, sq_string_len _ t2])
  have le : ∀ m : Move, (m.promotion ≠ PNONE → m.promotion < 12) → m.promotion ≤ 12 := by
    intro m hp
    by_cases h : m.promotion = PNONE
    · rw [h]; exact Nat.le_refl 12
    · exact Nat.le_of_lt (hp h)
  unfold smove
  rw [sq_string_inj _ f1 _ f2 ha, sq_string_inj _ t1 _ t2 hb, promo_suffix_kind _ (le m1 p1) _ (le m2 p2) hc]

end Jence
