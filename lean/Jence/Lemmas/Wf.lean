/-
  The consistent position (`Wf g b`): the piece sets hold a board, the cached occupancy sets agree with it, pawns stand on
  ranks 2-7 (squares 8-55), the en-passant square and the castling rights agree with the board, each side has exactly one
  king. `boardOf g` is the board read off the piece sets, `NoKingCapture`: no generated capture aims at the enemy king
  (how the generator sees "the side not to move is not in check"),
  `rights_table_iff` reads the engine's table of castling-rights masks. A fitting move keeps all of it (`makeCore_wf`), and
  the incrementally maintained key stays the from-scratch key (`makeCore_wf_key`).
-/
import Jence.Lemmas.MakeOcc
import Jence.Lemmas.KeyInc
namespace Jence
open Jence

/-- the rights mask of a square, bit by bit, is "this square is neither the king's nor that rook's home square" -/
theorem rights_table_iff : ∀ s, s < 64 →
    (Gen.CASTLING_RIGHTS.getD s 0).testBit 0 = (!(s == 60) && !(s == 63)) ∧
    (Gen.CASTLING_RIGHTS.getD s 0).testBit 1 = (!(s == 60) && !(s == 56)) ∧
    (Gen.CASTLING_RIGHTS.getD s 0).testBit 2 = (!(s == 4) && !(s == 7)) ∧
    (Gen.CASTLING_RIGHTS.getD s 0).testBit 3 = (!(s == 4) && !(s == 0)) := by decide +kernel

/-- one castling right, bit `k`: `kq`, `rq` are the king's and that rook's home squares, `ht`, `hf` rows of `rights_table_iff` -/
theorem right_after (c k from_ to_ kq rq : Nat) {x y : Nat} (ht : x.testBit k = (!(to_ == kq) && !(to_ == rq)))
    (hf : y.testBit k = (!(from_ == kq) && !(from_ == rq))) :
    (c &&& (x &&& y) &&& 2 ^ k != 0) = ((c &&& 2 ^ k != 0) && !(from_ == kq || to_ == kq) && !(from_ == rq || to_ == rq)) := by
  rw [and_pow_bool, and_pow_bool, Nat.testBit_and, Nat.testBit_and, ht, hf]
  cases c.testBit k <;> cases (from_ == kq) <;> cases (to_ == kq) <;> cases (from_ == rq) <;> cases (to_ == rq) <;> rfl

theorem right_kept (c k from_ to_ kq rq : Nat) {x y : Nat} (ht : x.testBit k = (!(to_ == kq) && !(to_ == rq)))
    (hf : y.testBit k = (!(from_ == kq) && !(from_ == rq))) (h : (c &&& (x &&& y)) &&& 2^k ≠ 0) :
    c &&& 2^k ≠ 0 ∧ to_ ≠ kq ∧ to_ ≠ rq ∧ from_ ≠ kq ∧ from_ ≠ rq := by
  have := right_after c k from_ to_ kq rq ht hf
  rw [← bne_iff_ne, this] at h
  simp only [Bool.and_eq_true, bne_iff_ne, Bool.not_eq_true', Bool.or_eq_false_iff, beq_eq_false_iff_ne] at h
  exact ⟨h.1.1, h.1.2.2, h.2.2, h.1.2.1, h.2.1⟩

/-- the board conditions of a consistent position; `w` the side to move, `ep` the en-passant square (64: none), `c` the
    castling rights. In `epOk`, `w` is the side that may capture: the pawn that was pushed two squares stands on `ep + 8`
    (a black pawn, white to move) or on `ep - 8` -/
structure BoardOk (b : Board) (w : Bool) (ep c : Nat) : Prop where
  valid : ∀ t q, t < 64 → b t = some q → q < 12
  pawns : ∀ t, t < 64 → (b t = some WP ∨ b t = some BP) → 8 ≤ t ∧ t < 56
  epLe : ep ≤ 64
  epOk : ep ≠ 64 → b ep = none ∧ (w = true → 8 ≤ ep ∧ ep + 8 < 64 ∧ b (ep + 8) = some BP) ∧ (w = false → 8 ≤ ep ∧ ep < 56 ∧ b (ep - 8) = some WP)
  castle1 : c &&& 1 ≠ 0 → b 60 = some WK ∧ b 63 = some WR
  castle2 : c &&& 2 ≠ 0 → b 60 = some WK ∧ b 56 = some WR
  castle4 : c &&& 4 ≠ 0 → b 4 = some BK ∧ b 7 = some BR
  castle8 : c &&& 8 ≠ 0 → b 4 = some BK ∧ b 0 = some BR
  wking : ∃ k, k < 64 ∧ b k = some WK ∧ ∀ t, t < 64 → b t = some WK → t = k
  bking : ∃ k, k < 64 ∧ b k = some BK ∧ ∀ t, t < 64 → b t = some BK → t = k

structure Wf (g : Game) (b : Board) : Prop where
  rep : Rep g.bbs b none
  occW : OccF whiteAt g.whiteOcc b
  occB : OccF blackAt g.blackOcc b
  occA : OccF Option.isSome g.allOcc b
  ok : BoardOk b g.white g.ep g.castling

def boardOf (g : Game) : Board := fun t => (List.range 12).find? (fun q => getBit (g.bb q) t)

theorem boardOf_lt (g : Game) (t q : Nat) (h : boardOf g t = some q) : q < 12 := by
  have := List.mem_of_find?_eq_some h
  simpa using this

section consistent
variable {g : Game} {b : Board}

theorem boardOf_eq (wf : Wf g b) (t : Nat) (ht : t < 64) : boardOf g t = b t := by
  have bitOf : ∀ q, q < 12 → getBit (g.bb q) t = decide (b t = some q) := fun q hq => rep_bit g.bbs b wf.rep q t hq ht
  cases hb : b t with
  | none =>
    exact List.find?_range_eq_none.2 (fun j hj => by rw [bitOf j hj, hb]; simp)
  | some q =>
    have hq := wf.ok.valid t q ht hb
    exact find?_range_unique 12 q _ hq (by rw [bitOf q hq, hb]; simp) (fun j hj h => by
      rw [bitOf j hj, hb] at h; simp at h; exact h.symm)

theorem Wf.bit_iff (wf : Wf g b) {q t : Nat} (hq : q < 12) (ht : t < 64) :
    getBit (g.bb q) t = true ↔ b t = some q := rep_bit_iff wf.rep hq ht

theorem Wf.all_iff (wf : Wf g b) (t : Nat) (ht : t < 64) : getBit g.allOcc t = false ↔ b t = none := by
  rw [wf.occA t ht]; cases b t <;> simp

theorem Wf.opp_iff (wf : Wf g b) (t : Nat) (ht : t < 64) :
    getBit (if g.white then g.blackOcc else g.whiteOcc) t = true ↔ ∃ v, b t = some v ∧ enemyP g.white v := by
  unfold enemyP
  cases hw : g.white
  · simp only [Bool.false_eq_true, if_false]
    rw [wf.occW t ht]
    cases b t <;> simp [whiteAt]
  · simp only [if_true]
    rw [wf.occB t ht]
    cases hb : b t with
    | none => simp [blackAt]
    | some v => have hv := wf.ok.valid t v ht hb; simp [blackAt, hv]

theorem mem_bitsOf_board (wf : Wf g b) (X f : Nat) (hX : X < 12) : f ∈ bitsOf (g.bb X) ↔ f < 64 ∧ b f = some X := by
  rw [mem_bitsOf]
  exact and_congr_right fun hf => wf.bit_iff hX hf

theorem Wf.pawn_row (wf : Wf g b) {f : Nat} (hf : f < 64) {w : Bool} (hb : b f = some (if w then WP else BP)) : 8 ≤ f ∧ f < 56 :=
  wf.ok.pawns f hf (by rw [hb]; cases w <;> simp)

theorem Wf.king_unique (wf : Wf g b) (w : Bool) :
    ∃ k, k < 64 ∧ b k = some (if w then WK else BK) ∧ ∀ t, t < 64 → b t = some (if w then WK else BK) → t = k := by
  cases w
  · exact wf.ok.bking
  · exact wf.ok.wking

end consistent

/-- no generated capture aims at the enemy king: the side not to move is not in check, as the generator sees it -/
def NoKingCapture (g : Game) : Prop :=
  ∀ m ∈ generateMoves g true, m.isCapture = true → getBit (g.bb (if g.white then BK else WK)) m.toSq = false

theorem enemyKing_enemy (w : Bool) : enemyP w (if w then BK else WK) := enemyP_ite w (by decide) (by decide)

section conditions
variable {b : Board} {w : Bool} {m : Move} {ep c : Nat}

/-- the rook of a castling hops along the mover's back rank: squares 56-63 for white, 0-7 for black -/
theorem hop_row (fits : MoveFits b w m) (hcs : m.isCastling = true) (r f tt : Nat) (hhop : rookHop m.toSq = some (r, f, tt)) :
    if w then 56 ≤ f ∧ 56 ≤ tt else f < 8 ∧ tt < 8 := by
  obtain ⟨_, _, _, hr⟩ := fits.rook hcs hhop
  rcases rookHop_cases hhop with ⟨_, rfl, rfl, rfl⟩ | ⟨_, rfl, rfl, rfl⟩ | ⟨_, rfl, rfl, rfl⟩ | ⟨_, rfl, rfl, rfl⟩ <;> cases w
  · exact absurd hr (by decide)
  · decide
  · exact absurd hr (by decide)
  · decide
  · decide
  · exact absurd hr (by decide)
  · decide
  · exact absurd hr (by decide)

theorem king_keep (fits : MoveFits b w m) (K : Nat) (hK : K = WK ∨ K = BK)
    (h : ∃ k, k < 64 ∧ b k = some K ∧ ∀ t, t < 64 → b t = some K → t = k) :
    ∃ k, k < 64 ∧ applyB b w m k = some K ∧ ∀ t, t < 64 → applyB b w m t = some K → t = k := by
  obtain ⟨k, hk, hbk, hu⟩ := h
  -- no king comes from a promotion or is promoted, and the castled rook is no king
  have hland : landed m = K ↔ m.piece = K := by
    unfold landed
    split
    · rename_i hpr
      obtain ⟨hpw, _, _, p4, p5⟩ := fits.promoKind hpr
      constructor
      · intro h
        rcases hK with rfl | rfl
        · exact absurd h p4
        · exact absurd h p5
      · intro h
        rw [h] at hpw
        rcases hK with rfl | rfl <;> cases w <;> exact absurd hpw (by decide)
    · exact Iff.rfl
  have hrook : ∀ {r f tt : Nat}, rookHop m.toSq = some (r, f, tt) → r ≠ K := by
    intro r f tt hh
    rcases rookHop_rook hh with rfl | rfl <;> rcases hK with rfl | rfl <;> decide
  by_cases hp : m.piece = K
  · -- the king moves: it stands on the target square, and not where it stood
    refine ⟨m.toSq, fits.toLt, by rw [applyB_to fits, hland.2 hp], fun t ht h' => ?_⟩
    rcases applyB_some fits h' with hb | ⟨h1, _⟩ | ⟨_, f, hh⟩
    · have : t = m.fromSq := (hu t ht hb).trans (hu _ fits.fromLt (by rw [fits.src, hp])).symm
      rw [this, applyB_from fits] at h'
      exact absurd h' (by simp)
    · exact h1
    · exact absurd rfl (hrook hh)
  · -- another piece moves: the king is not captured (`MoveFits.target`), so it stays, and no other king arrives
    refine ⟨k, hk, ?_, fun t ht h' => ?_⟩
    · refine applyB_keep fits k K hbk (by rcases hK with rfl | rfl <;> decide) (fun e => ?_)
        (fun e => hp (by rw [e, fits.src] at hbk; injection hbk)) (fun hcs r f tt hhop => ?_)
      · obtain ⟨hen, hnk⟩ := fits.target (e ▸ hbk)
        rw [enemyP_iff_lt] at hen
        rcases hK with rfl | rfl <;> cases w
        · exact hnk rfl
        · exact absurd hen (by decide)
        · exact absurd hen (by decide)
        · exact hnk rfl
      · obtain ⟨hbf, hbt, _, _⟩ := fits.rook hcs hhop
        exact ⟨fun e => hrook hhop (by rw [e, hbf] at hbk; injection hbk), fun e => by rw [e, hbt] at hbk; exact absurd hbk (by simp)⟩
    · rcases applyB_some fits h' with hb | ⟨_, h2⟩ | ⟨_, f, hh⟩
      · exact hu t ht hb
      · exact absurd (hland.1 h2.symm) hp
      · exact absurd rfl (hrook hh)

theorem applyB_valid (ok : BoardOk b w ep c) (fits : MoveFits b w m) (t q : Nat) (ht : t < 64) (h : applyB b w m t = some q) :
    q < 12 := by
  rcases applyB_some fits h with h' | ⟨_, rfl⟩ | ⟨_, f, hhop⟩
  · exact ok.valid t q ht h'
  · exact ownP_lt (landed_own fits)
  · exact (rookHop_ne hhop).2.2.2.1

/-- a pawn that arrives does not promote, so it stays off the first and last rows -/
theorem applyB_pawns (ok : BoardOk b w ep c) (fits : MoveFits b w m) (t : Nat) (ht : t < 64)
    (h : applyB b w m t = some WP ∨ applyB b w m t = some BP) : 8 ≤ t ∧ t < 56 := by
  have hq : ∃ q, applyB b w m t = some q ∧ (q = WP ∨ q = BP) := by
    rcases h with h | h
    · exact ⟨_, h, Or.inl rfl⟩
    · exact ⟨_, h, Or.inr rfl⟩
  obtain ⟨q, h, hq⟩ := hq
  rcases applyB_some fits h with h' | ⟨ht', rfl⟩ | ⟨_, f, hhop⟩
  · exact ok.pawns t ht (by rcases hq with rfl | rfl; exact Or.inl h'; exact Or.inr h')
  · have hpn : m.promotion = PNONE := by
      apply Classical.byContradiction
      intro hpr
      obtain ⟨_, p1, p2, _, _⟩ := fits.promoKind hpr
      unfold landed at hq; rw [if_pos hpr] at hq
      exact hq.elim p1 p2
    have hlp : landed m = m.piece := by unfold landed; rw [if_neg (by simp [hpn])]
    rw [hlp] at hq
    rw [ht']; exact fits.pawnTo (ownP_eq_ite fits.piece (A := WP) (by decide) hq) hpn
  · rcases rookHop_rook hhop with rfl | rfl <;> rcases hq with h | h <;> exact absurd h (by decide)

/-- the castling right of bit `k` (colour `wh`, king `K` on `ks`, rook `R` on `rs`; `ht`, `hf`: rows of `rights_table_iff`):
    if it survives, its king and rook stand untouched - the mover's own castling would start on the king's home square, the
    other side's rook hops on the far row -/
theorem applyB_right (fits : MoveFits b w m) (k ks K rs R : Nat) (wh : Bool)
    (ht : (Gen.CASTLING_RIGHTS.getD m.toSq 0).testBit k = (!(m.toSq == ks) && !(m.toSq == rs)))
    (hf : (Gen.CASTLING_RIGHTS.getD m.fromSq 0).testBit k = (!(m.fromSq == ks) && !(m.fromSq == rs)))
    (hK : K ≠ WP ∧ K ≠ BP) (hR : R ≠ WP ∧ R ≠ BP) (hks : ks = (if wh then 60 else 4))
    (far : (if wh then 56 ≤ ks else ks < 8) ∧ (if wh then 56 ≤ rs else rs < 8))
    (hold : c &&& 2^k ≠ 0 → b ks = some K ∧ b rs = some R)
    (h : (c &&& (Gen.CASTLING_RIGHTS.getD m.toSq 0 &&& Gen.CASTLING_RIGHTS.getD m.fromSq 0)) &&& 2^k ≠ 0) :
    applyB b w m ks = some K ∧ applyB b w m rs = some R := by
  obtain ⟨hc, a1, a2, b1, b2⟩ := right_kept c k m.fromSq m.toSq ks rs ht hf h
  obtain ⟨k1, k2⟩ := hold hc
  have keep : ∀ s q, (if wh then 56 ≤ s else s < 8) → b s = some q → (q ≠ WP ∧ q ≠ BP) → s ≠ m.toSq → s ≠ m.fromSq →
      applyB b w m s = some q := by
    intro s q hs hb hq n1 n2
    apply applyB_keep fits s q hb hq n1 n2
    intro hcs r f tt hhop
    have hrow := hop_row fits hcs r f tt hhop
    have hfrom := (fits.castleFrom hcs).1
    cases wh <;> cases w <;> simp only [Bool.false_eq_true, if_false, if_true] at hs hrow hks hfrom
    · exact absurd (hfrom.trans hks.symm) b1
    · omega
    · omega
    · exact absurd (hfrom.trans hks.symm) b1
  exact ⟨keep ks K far.1 k1 hK (Ne.symm a1) (Ne.symm b1), keep rs R far.2 k2 hR (Ne.symm a2) (Ne.symm b2)⟩

end conditions

theorem applyB_ok {b : Board} {w : Bool} {m : Move} {ep c : Nat} (ok : BoardOk b w ep c) (fits : MoveFits b w m) :
    BoardOk (applyB b w m) (!w) (if m.isDoublePush then (if w then m.toSq + 8 else m.toSq - 8) else SQNONE)
      (c &&& (Gen.CASTLING_RIGHTS.getD m.toSq 0 &&& Gen.CASTLING_RIGHTS.getD m.fromSq 0)) := by
  have t := rights_table_iff m.toSq fits.toLt
  have f := rights_table_iff m.fromSq fits.fromLt
  refine ⟨applyB_valid ok fits, applyB_pawns ok fits, ?_, ?_,
    applyB_right fits 0 60 WK 63 WR true t.1 f.1 (by decide) (by decide) rfl (by decide) ok.castle1,
    applyB_right fits 1 60 WK 56 WR true t.2.1 f.2.1 (by decide) (by decide) rfl (by decide) ok.castle2,
    applyB_right fits 2 4 BK 7 BR false t.2.2.1 f.2.2.1 (by decide) (by decide) rfl (by decide) ok.castle4,
    applyB_right fits 3 4 BK 0 BR false t.2.2.2 f.2.2.2 (by decide) (by decide) rfl (by decide) ok.castle8,
    king_keep fits WK (Or.inl rfl) ok.wking, king_keep fits BK (Or.inr rfl) ok.bking⟩
  · have hS : SQNONE = 64 := rfl
    have htl := fits.toLt
    have hfl := fits.fromLt
    split
    · rename_i hdp
      obtain ⟨_, _, _, _, hw, hb⟩ := fits.dpush hdp
      cases w
      · simp; omega
      · have := (hw rfl).1; simp; omega
    · omega
  · intro hne
    have hdp : m.isDoublePush = true := by
      cases h : m.isDoublePush
      · rw [h] at hne; simp at hne
      · rfl
    obtain ⟨hpw, hc, hpn, hcs, hw, hb⟩ := fits.dpush hdp
    have hef := fits.ep_cap hc
    have hto := applyB_to_piece fits hpn
    have hfr : 8 ≤ m.fromSq ∧ m.fromSq < 56 := by
      apply ok.pawns m.fromSq fits.fromLt
      rw [fits.src, hpw]; cases w <;> simp
    have htl := fits.toLt
    rw [hdp]
    simp only [if_true]
    cases w
    · -- black pushed: the square is `to - 8`
      obtain ⟨h16, hmid⟩ := hb rfl
      simp only [Bool.false_eq_true, if_false, Bool.not_false] at hpw ⊢
      refine ⟨?_, fun _ => ⟨by omega, by omega, ?_⟩, fun h => absurd h (by simp)⟩
      · rw [applyB_plain hef hcs, Board.set_ne (by omega), Board.set_ne (by omega)]; exact hmid
      · rw [show m.toSq - 8 + 8 = m.toSq by omega, hto, hpw]
    · -- white pushed: the square is `to + 8`
      obtain ⟨h16, hmid⟩ := hw rfl
      simp only [if_true, Bool.not_true] at hpw ⊢
      refine ⟨?_, fun h => absurd h (by simp), fun _ => ⟨by omega, by omega, ?_⟩⟩
      · rw [applyB_plain hef hcs, Board.set_ne (by omega), Board.set_ne (by omega)]; exact hmid
      · rw [show m.toSq + 8 - 8 = m.toSq by omega, hto, hpw]

theorem makeForce_wf {g : Game} {m : Move} {b : Board} (wf : Wf g b) (fits : MoveFits b g.white m) :
    Wf (makeForce g m) (applyB b g.white m) := by
  obtain ⟨o1, o2, o3⟩ := makeForce_occ wf.occW wf.occB wf.occA fits
  obtain ⟨f1, f2, f3, _⟩ := Game.meta_eq (makeForce_meta g m)
  refine ⟨makeForce_rep wf.rep fits, o1, o2, o3, ?_⟩
  rw [f1, f2, f3]
  exact applyB_ok wf.ok fits

/-- **T2.1** a fitting move keeps the position consistent, on the board `applyB` -/
theorem makeCore_wf (g g' : Game) (m : Move) (b : Board) (wf : Wf g b) (fits : MoveFits b g.white m)
    (hmk : makeCore g m = some g') : Wf g' (applyB b g.white m) :=
  makeCore_some hmk ▸ makeForce_wf wf fits

/-- **T4.1** from a consistent position whose key is the from-scratch key, a fitting move leads to one whose key is -/
theorem makeCore_wf_key (g g' : Game) (m : Move) (b : Board) (wf : Wf g b) (fits : MoveFits b g.white m)
    (hkey : g.key = scratchKey g) (hmk : makeCore g m = some g') : g'.key = scratchKey g' :=
  makeCore_key g g' m hkey (fits.moveOk wf.rep) hmk

end Jence
