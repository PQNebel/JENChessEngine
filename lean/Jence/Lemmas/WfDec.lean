/-
  The consistency of a position is decidable: `boardOf g` reads the board off the piece sets, and `Wf g (boardOf g)` and
  `NoKingCapture g` are bounded statements. The model driver evaluates both (`oracle wf`), so the hypotheses of the
  history theorems are checked on the positions the correspondence check visits.
-/
import Jence.Lemmas.Wf
namespace Jence
open Jence

instance (bbs : Array UInt64) (b : Board) (x : Option (Nat × Nat)) : Decidable (Rep bbs b x) :=
  decidable_of_iff (bbs.size = 12 ∧ ∀ q, q < 12 → ∀ t, t < 64 → getBit (bbs.getD q 0) t = (decide (b t = some q) || decide (x = some (q, t))))
    ⟨fun ⟨a, h⟩ => ⟨a, fun q t hq ht => h q hq t ht⟩, fun ⟨a, h⟩ => ⟨a, fun q hq t ht => h q t hq ht⟩⟩

instance (f : Option Nat → Bool) (x : UInt64) (b : Board) : Decidable (OccF f x b) :=
  decidable_of_iff (∀ t, t < 64 → getBit x t = f (b t)) Iff.rfl

/-- the board conditions with the unbounded quantifier of `valid` left out (it holds of `boardOf` by construction) -/
structure BoardOkD (b : Board) (w : Bool) (ep c : Nat) : Prop where
  pawns : ∀ t, t < 64 → (b t = some WP ∨ b t = some BP) → 8 ≤ t ∧ t < 56
  epLe : ep ≤ 64
  epOk : ep ≠ 64 → b ep = none ∧ (w = true → 8 ≤ ep ∧ ep + 8 < 64 ∧ b (ep + 8) = some BP) ∧ (w = false → 8 ≤ ep ∧ ep < 56 ∧ b (ep - 8) = some WP)
  castle1 : c &&& 1 ≠ 0 → b 60 = some WK ∧ b 63 = some WR
  castle2 : c &&& 2 ≠ 0 → b 60 = some WK ∧ b 56 = some WR
  castle4 : c &&& 4 ≠ 0 → b 4 = some BK ∧ b 7 = some BR
  castle8 : c &&& 8 ≠ 0 → b 4 = some BK ∧ b 0 = some BR
  wking : ∃ k, k < 64 ∧ b k = some WK ∧ ∀ t, t < 64 → b t = some WK → t = k
  bking : ∃ k, k < 64 ∧ b k = some BK ∧ ∀ t, t < 64 → b t = some BK → t = k

instance (b : Board) (w : Bool) (ep c : Nat) : Decidable (BoardOkD b w ep c) :=
  if h1 : ∀ t, t < 64 → (b t = some WP ∨ b t = some BP) → 8 ≤ t ∧ t < 56 then
  if h2 : ep ≤ 64 then
  if h3 : ep ≠ 64 → b ep = none ∧ (w = true → 8 ≤ ep ∧ ep + 8 < 64 ∧ b (ep + 8) = some BP) ∧ (w = false → 8 ≤ ep ∧ ep < 56 ∧ b (ep - 8) = some WP) then
  if h4 : c &&& 1 ≠ 0 → b 60 = some WK ∧ b 63 = some WR then
  if h5 : c &&& 2 ≠ 0 → b 60 = some WK ∧ b 56 = some WR then
  if h6 : c &&& 4 ≠ 0 → b 4 = some BK ∧ b 7 = some BR then
  if h7 : c &&& 8 ≠ 0 → b 4 = some BK ∧ b 0 = some BR then
  if h8 : ∃ k, k < 64 ∧ b k = some WK ∧ ∀ t, t < 64 → b t = some WK → t = k then
  if h9 : ∃ k, k < 64 ∧ b k = some BK ∧ ∀ t, t < 64 → b t = some BK → t = k then
    isTrue ⟨h1, h2, h3, h4, h5, h6, h7, h8, h9⟩
  else isFalse fun h => h9 h.bking
  else isFalse fun h => h8 h.wking
  else isFalse fun h => h7 h.castle8
  else isFalse fun h => h6 h.castle4
  else isFalse fun h => h5 h.castle2
  else isFalse fun h => h4 h.castle1
  else isFalse fun h => h3 h.epOk
  else isFalse fun h => h2 h.epLe
  else isFalse fun h => h1 h.pawns

def WfD (g : Game) : Prop :=
  Rep g.bbs (boardOf g) none ∧ OccF whiteAt g.whiteOcc (boardOf g) ∧ OccF blackAt g.blackOcc (boardOf g) ∧
  OccF Option.isSome g.allOcc (boardOf g) ∧ BoardOkD (boardOf g) g.white g.ep g.castling

instance (g : Game) : Decidable (WfD g) := by unfold WfD; infer_instance

theorem WfD.wf {g : Game} (h : WfD g) : Wf g (boardOf g) := by
  obtain ⟨r, o1, o2, o3, d⟩ := h
  exact ⟨r, o1, o2, o3, ⟨fun t q _ hq => boardOf_lt g t q hq, d.pawns, d.epLe, d.epOk, d.castle1, d.castle2, d.castle4, d.castle8, d.wking, d.bking⟩⟩

instance (g : Game) : Decidable (NoKingCapture g) := by unfold NoKingCapture; infer_instance

end Jence
