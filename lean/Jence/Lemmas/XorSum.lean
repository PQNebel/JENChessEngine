/-
  XOR-sums over the set bits of a bit set, and how they change when one bit is set or cleared: the algebra behind the
  incrementally maintained position key.
-/
import Jence.Lemmas.BitScan
import Jence.Lemmas.ListExtra
import Jence.Model.Zobrist
namespace Jence
open Jence

/-- XOR of `f j` over `j < n` -/
def xorOver (f : Nat → UInt64) (n : Nat) : UInt64 := (List.range n).foldl (fun h j => h ^^^ f j) 0

theorem foldl_xor_init (l : List Nat) (f : Nat → UInt64) (a : UInt64) :
    l.foldl (fun h j => h ^^^ f j) a = a ^^^ l.foldl (fun h j => h ^^^ f j) 0 := by
  induction l generalizing a with
  | nil => simp
  | cons x l ih =>
    simp only [List.foldl_cons]
    rw [ih (a ^^^ f x), ih (0 ^^^ f x), UInt64.zero_xor, UInt64.xor_assoc]

theorem xorOver_succ (f : Nat → UInt64) (n : Nat) : xorOver f (n + 1) = xorOver f n ^^^ f n := by
  unfold xorOver
  rw [List.range_succ]
  simp

theorem xorOver_congr (f g : Nat → UInt64) (n : Nat) (h : ∀ j, j < n → f j = g j) : xorOver f n = xorOver g n := by
  induction n with
  | zero => rfl
  | succ n ih => rw [xorOver_succ, xorOver_succ, ih (fun j hj => h j (Nat.lt_succ_of_lt hj)), h n (Nat.lt_succ_self n)]

theorem xorOver_update (f g : Nat → UInt64) (n s : Nat) (hs : s < n) (h : ∀ j, j < n → j ≠ s → g j = f j) :
    xorOver g n = xorOver f n ^^^ f s ^^^ g s := by
  induction n with
  | zero => exact absurd hs (Nat.not_lt_zero s)
  | succ n ih =>
    rw [xorOver_succ, xorOver_succ]
    by_cases hsn : s = n
    · subst hsn
      rw [xorOver_congr g f s (fun j hj => h j (Nat.lt_succ_of_lt hj) (Nat.ne_of_lt hj)), xor_cancel]
    · rw [ih (Nat.lt_of_le_of_ne (Nat.le_of_lt_succ hs) hsn) (fun j hj hne => h j (Nat.lt_succ_of_lt hj) hne),
        h n (Nat.lt_succ_self n) (Ne.symm hsn), xor_right_comm _ (g s) (f n), xor_right_comm _ (f s) (f n)]

theorem foldl_filter_xor (l : List Nat) (c : Nat → Bool) (k : Nat → UInt64) (a : UInt64) :
    (l.filter c).foldl (fun h s => h ^^^ k s) a = l.foldl (fun h j => h ^^^ (if c j then k j else 0)) a := by
  induction l generalizing a with
  | nil => rfl
  | cons x l ih =>
    simp only [List.filter_cons, List.foldl_cons]
    by_cases hx : c x = true
    · simp only [hx, ↓reduceIte, List.foldl_cons]; exact ih _
    · have hx' : c x = false := by simpa using hx
      simp only [hx', Bool.false_eq_true, ↓reduceIte, UInt64.xor_zero]; exact ih _

section piece
variable (p : Nat) (b : UInt64)

theorem xorPiece_eq :
    xorPiece p b = xorOver (fun s => if getBit b s then pieceKey p s else 0) 64 := by
  unfold xorPiece xorOver
  rw [bitsOf_eq_filter]
  exact foldl_filter_xor (List.range 64) (fun j => getBit b j) (pieceKey p) 0

theorem xorPiece_setBit (s : Nat) (hs : s < 64) (hclear : getBit b s = false) :
    xorPiece p (setBit b s) = xorPiece p b ^^^ pieceKey p s := by
  rw [xorPiece_eq, xorPiece_eq, xorOver_update (fun j => if getBit b j then pieceKey p j else 0) _ 64 s hs
    (fun j hj hne => by rw [getBit_setBit_ne b s j hs hj hne])]
  simp only [hclear, getBit_setBit_self b s hs, Bool.false_eq_true, ↓reduceIte, UInt64.xor_zero]

theorem xorPiece_unsetBit (s : Nat) (hs : s < 64) (hset : getBit b s = true) :
    xorPiece p (unsetBit b s) = xorPiece p b ^^^ pieceKey p s := by
  rw [xorPiece_eq, xorPiece_eq, xorOver_update (fun j => if getBit b j then pieceKey p j else 0) _ 64 s hs
    (fun j hj hne => by rw [getBit_unsetBit_ne b s j hs hj hne])]
  simp only [hset, getBit_unsetBit_self b s hs, Bool.false_eq_true, ↓reduceIte, UInt64.xor_zero]

end piece

/-- the piece part of `scratchKey`: the XOR over the twelve piece sets of the keys of their squares -/
def pieceSum (bbs : Array UInt64) : UInt64 := (List.range 12).foldl (fun h p => h ^^^ xorPiece p (bbs.getD p 0)) 0

theorem pieceSum_eq (bbs : Array UInt64) : pieceSum bbs = xorOver (fun p => xorPiece p (bbs.getD p 0)) 12 := rfl

theorem pieceSum_set (bbs : Array UInt64) (p : Nat) (v : UInt64) (hp : p < 12) (hsz : bbs.size = 12) :
    pieceSum (bbs.setIfInBounds p v) = pieceSum bbs ^^^ xorPiece p (bbs.getD p 0) ^^^ xorPiece p v := by
  rw [pieceSum_eq, pieceSum_eq, xorOver_update (fun q => xorPiece q (bbs.getD q 0)) _ 12 p hp
    (fun j _ hne => by rw [getD_setIfInBounds_ne bbs v 0 hne]), getD_setIfInBounds_self bbs v 0 (hsz ▸ hp)]

/-- the side part of `scratchKey` -/
def sideK (white : Bool) : UInt64 := if white then 0 else SIDE_KEY
/-- the en-passant part of `scratchKey`: `epKey` of the square if there is one -/
def epK (ep : Nat) : UInt64 := if ep != SQNONE then epKey ep else 0

theorem scratchKey_eq (g : Game) : scratchKey g = pieceSum g.bbs ^^^ castleKey g.castling ^^^ sideK g.white ^^^ epK g.ep := by
  unfold scratchKey sideK epK pieceSum Game.bb
  cases g.white <;> cases (g.ep != SQNONE) <;> simp

theorem sideK_not (w : Bool) : sideK (!w) = sideK w ^^^ SIDE_KEY := by
  cases w <;> simp [sideK]

end Jence
