/-
  C01 — legal move generation, the parts that need no consistent position: T1.1 the capture-only generator is the full
  generator restricted to captures; T1.2 the legality filter and the rejection inside `make` are one predicate on generated
  moves, so the legal list is the generated list that `make` accepts; and making a generated move keeps the en-passant
  field a square number or "none". `GenShape` / `generated_shape` (what a generated word looks like) and
  `legalValues_eq_made` stand under this namespace in `Lemmas/GenMem` and `Lemmas/Legality`, where lemma files can use them.

  Model: `generateMoves` (`generate_moves` in `src/move_generator.rs`), both modes.
-/
import Jence.Model.MoveGen
import Jence.Lemmas.ListExtra
import Jence.Lemmas.Legality
import Jence.Lemmas.BitScan
import Jence.Lemmas.GenMem
import Jence.Lemmas.MakeNF
namespace Jence.Props.C01
open Jence

theorem bitsOf_lt (b : UInt64) : ∀ s ∈ bitsOf b, s < 64 := Jence.bitsOf_lt b

section filter
variable (g : Game)

theorem pawnQuiet_quiet (f : Nat) (hf : f ≤ 64) : ∀ m ∈ pawnQuiet g f, m.isCapture = false := by
  intro m hm
  obtain ⟨_, ⟨pr, hpr, rfl⟩ | ⟨_, _, _, rfl⟩⟩ := mem_pawnQuiet.1 hm
  · exact (gen_mk_flags _ _ _ _ _ _ _ _ hf (fwd_le _ _) (pawn_piece_le _) (promoOpts_le hpr)).1
  · exact (gen_mk_flags _ _ _ _ _ _ _ _ hf (fwd_le _ _) (pawn_piece_le _) (by decide)).1

theorem pawnEp_capture (f : Nat) (hf : f ≤ 64) (hep : g.ep ≤ 64) : ∀ m ∈ pawnEp g f, m.isCapture = true := by
  intro m hm
  obtain ⟨_, _, rfl⟩ := mem_pawnEp.1 hm
  exact (gen_mk_flags _ _ _ _ _ _ _ _ hf (by omega) (pawn_piece_le _) (by decide)).1

theorem pawnCaps_capture (f : Nat) (hf : f ≤ 64) : ∀ m ∈ pawnCaps g f, m.isCapture = true := by
  intro m hm
  obtain ⟨t, pr, ht, _, _, hpr, rfl⟩ := mem_pawnCaps.1 hm
  exact (gen_mk_flags _ _ _ _ _ _ _ _ hf (by omega) (pawn_piece_le _) (promoOpts_le hpr)).1

theorem pawnMoves_filter (f : Nat) (hf : f ≤ 64) (hep : g.ep ≤ 64) :
    pawnMoves g false f = (pawnMoves g true f).filter Move.isCapture := by
  unfold pawnMoves
  simp only [Bool.false_eq_true, ↓reduceIte, List.nil_append, List.filter_append]
  rw [filter_all_false _ _ (pawnQuiet_quiet g f hf), List.filter_eq_self.2 (pawnEp_capture g f hf hep),
    List.filter_eq_self.2 (pawnCaps_capture g f hf)]
  simp

theorem castling_filter : castlingMoves g false = (castlingMoves g true).filter Move.isCapture := by
  have h : ∀ m ∈ castlingMoves g true, m.isCapture = false := by
    intro m hm
    obtain ⟨_, qs, _, rfl⟩ := mem_castlingMoves.1 hm
    exact (castleMove_fields g.white qs).2.2.1
  rw [filter_all_false _ _ h, castlingMoves_eq, if_neg Bool.false_ne_true]

theorem pieceMoves_filter (piece : Nat) (hp : piece ≤ 12) (att : Nat → UInt64) :
    pieceMoves g false piece att = (pieceMoves g true piece att).filter Move.isCapture := by
  unfold pieceMoves
  simp only [Bool.false_eq_true, ↓reduceIte, List.nil_append, List.filter_flatMap]
  apply List.flatMap_congr'
  intro f hf
  have flag : ∀ (c : Bool) (x : UInt64), ∀ m ∈ (bitsOf x).map (fun t => Move.mk' f t piece PNONE c false false false),
      m.isCapture = c := by
    intro c x m hm
    obtain ⟨t, ht, rfl⟩ := List.mem_map.1 hm
    exact (gen_mk_flags _ _ _ _ _ _ _ _ (bitsOf_le _ f hf) (by have := bitsOf_le _ t ht; omega) hp (by decide)).1
  rw [List.filter_append, filter_all_false _ _ (flag false _), List.filter_eq_self.2 (flag true _)]
  rfl

end filter

/-- **T1.1** For every position whatsoever (legal or not; the only assumption is that the en-passant field holds a square
    number or "none", which the Rust type guarantees) the capture-only generator used at the search horizon produces
    exactly the moves of the full generator that carry the capture flag, in the same order: en-passant captures and
    capturing promotions included, castling and quiet promotions excluded. -/
theorem gen_quiescence_eq_filter (g : Game) (hep : g.ep ≤ 64) :
    generateMoves g false = (generateMoves g true).filter Move.isCapture := by
  have hpawn : (bitsOf (g.bb (WP + sideOff g.white))).flatMap (pawnMoves g false) =
      (bitsOf (g.bb (WP + sideOff g.white))).flatMap (fun f => (pawnMoves g true f).filter Move.isCapture) :=
    List.flatMap_congr' (fun f hf => pawnMoves_filter g f (bitsOf_le _ f hf) hep)
  have hkinds : ([WN, WB, WR, WQ, WK].flatMap fun k =>
        pieceMoves g false (k + sideOff g.white) (attacksOf g.allOcc (k + sideOff g.white))) =
      [WN, WB, WR, WQ, WK].flatMap fun k =>
        (pieceMoves g true (k + sideOff g.white) (attacksOf g.allOcc (k + sideOff g.white))).filter Move.isCapture :=
    List.flatMap_congr' (fun k hk => pieceMoves_filter g _ (Nat.le_of_lt (ownP_lt (kind_own hk _))) _)
  rw [generateMoves_eq, generateMoves_eq, List.filter_append, List.filter_append, List.filter_flatMap, List.filter_flatMap,
    ← castling_filter, hpawn, hkinds]

/-- **T1.2** For every position (legal or not) and every generated move, in either mode: the legality test the move
    filter uses and the rejection inside `make` are the same predicate, so the set of moves the engine treats as legal is
    the same whether it filters its generated moves or tries to make them. -/
theorem legality_paths_agree (g : Game) (hep : g.ep ≤ 64) (all : Bool) (m : Move) (hm : m ∈ generateMoves g all) :
    isLegal g m = (makeCore g m).isSome :=
  Jence.legality_paths_agree g m (generated_shape g all hep m hm).ep_imp_cap

theorem legal_moves_can_be_made (g : Game) (hep : g.ep ≤ 64) (m : Move) (hm : m ∈ legalValues g) : (makeCore g m).isSome := by
  rw [legalValues_eq_made g hep] at hm
  simpa using (List.mem_filter.mp hm).2

theorem makePost_ep (g : Game) (m : Move) (h : GenShape m) : (makePost g m).ep ≤ 64 := by
  obtain ⟨f, t, p, pr, c, d, e, k, rfl, hf, ht, hp, hpr, _, hd⟩ := h
  -- the component is taken by injectivity of pairs: `congrArg (·.2.1)` makes the kernel compare the positions through
  -- the division in the packed move's flags
  have h := makePost_meta g (Move.mk' f t p pr c d e k)
  simp only [Game.meta, Prod.mk.injEq] at h
  rw [h.2.1, (gen_mk_flags f t p pr c d e k (Nat.le_of_lt hf) ht hp hpr).2.1]
  cases d with
  | false => exact Nat.le_refl 64
  | true =>
    have ht8 := hd rfl
    rw [(mk_fields f t p pr c true e k hf (by omega) (by omega) (by omega)).toSq, if_pos rfl]
    split <;> omega

theorem makeCore_ep (g g' : Game) (m : Move) (hs : GenShape m) (h : makeCore g m = some g') : g'.ep ≤ 64 :=
  makeCore_some h ▸ makePost_ep _ m hs

end Jence.Props.C01
