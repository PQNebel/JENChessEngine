/-
  C01 — legal move generation is exact: refinement to the rules specification.

  `Spec.Rules` is the independent statement of the rules (mailbox board, coordinate arithmetic, no bitboards, tables or
  move flags); `Spec.abs` maps an engine position to the rules position it denotes (the run-time oracle prints it as FEN);
  `smove` maps a packed move word to the rules move (from, to, promotion kind). `Wf g b` (Lemmas/Wf.lean) is the
  consistent position, `NoKingCapture g` says the side not to move is not in check; both are decidable, evaluated on every
  root by the model driver, and preserved by every accepted move (C02 T2.3).
-/
import Jence.Lemmas.LegalMoves
namespace Jence.Props.C01
open Jence

/-- **T1.3** The legal moves agree, for every consistent position: a rules move is legal (pseudo-legal by the rules'
    per-piece description, castling with its rights / empty squares / no attacked square on the king's way, and not
    leaving the mover in check) **iff** it is the move denoted by an element of `legal_values` (what `generate_moves`
    emits and `is_legal` / `make_search_move` accepts). No move is missing, none is extra - for all positions at once:
    pins, en passant (including the discovered-check cases), promotions and under-promotions, both castlings, double
    checks are all inside this one statement. -/
theorem legal_moves_are_the_rules (g : Game) (b : Board) (wf : Wf g b) (nk : NoKingCapture g) (sm : Spec.SMove) :
    sm ∈ Spec.legalMoves (Spec.abs g) ↔ ∃ m ∈ legalValues g, smove m = sm :=
  legal_refines wf nk sm

/-- **T1.3, with multiplicity** neither list has repeats, so the rules moves denoted by `legal_values` (in generation
    order) are a permutation of the rules' legal move list: counting one counts the other -/
theorem legal_lists_agree_as_multisets (g : Game) (b : Board) (wf : Wf g b) (nk : NoKingCapture g) :
    ((legalValues g).map smove).Perm (Spec.legalMoves (Spec.abs g)) ∧ (generateMoves g true).Nodup ∧
    (Spec.legalMoves (Spec.abs g)).Nodup :=
  ⟨legal_perm wf nk, generateMoves_nodup wf, spec_legal_nodup wf⟩

/-- **T1.4** `is_square_attacked` and `is_in_check` (reverse lookups through the PEXT tables) are the rules' `attacked`
    and `inCheck` -/
theorem attack_tests_are_the_rules (g : Game) (b : Board) (wf : Wf g b) :
    (∀ sq, sq < 64 → ∀ byWhite, isSquareAttacked g sq byWhite = Spec.attacked (Spec.abs g) sq byWhite) ∧
    (∀ white, isInCheck g white = Spec.inCheck (Spec.abs g) white) :=
  ⟨fun sq hsq byWhite => attacked_refines wf sq hsq byWhite, fun white => inCheck_refines wf white⟩

/-- **T1.5** the pseudo-legal level, castling aside: per piece, the generator emits exactly the rules' moves of that piece
    (pushes, double pushes, captures, en passant, all four promotions; slides up to the first blocker; knight and king
    steps) -/
theorem pseudo_legal_moves_are_the_rules (g : Game) (b : Board) (wf : Wf g b) (sm : Spec.SMove) :
    sm ∈ specNonCastle (Spec.abs g) ↔ ∃ m ∈ genNonCastle g, smove m = sm :=
  nonCastle_refines wf sm

theorem no_legal_move_iff (g : Game) (b : Board) (wf : Wf g b) (nk : NoKingCapture g) :
    legalValues g = [] ↔ Spec.legalMoves (Spec.abs g) = [] := by
  have h := (legal_perm wf nk).length_eq
  rw [List.length_map] at h
  rw [← List.length_eq_zero_iff, ← List.length_eq_zero_iff, h]

/-- checkmate and stalemate, as the engine decides them (no element in `legal_values`, in check or not), are the rules'
    checkmate and stalemate -/
theorem terminal_is_the_rules (g : Game) (b : Board) (wf : Wf g b) (nk : NoKingCapture g) :
    ((legalValues g).isEmpty && isInCheck g g.white) = Spec.isMate (Spec.abs g) ∧
    ((legalValues g).isEmpty && !isInCheck g g.white) = Spec.isStalemate (Spec.abs g) := by
  have hemp : (legalValues g).isEmpty = (Spec.legalMoves (Spec.abs g)).isEmpty := by
    rw [Bool.eq_iff_iff, List.isEmpty_iff, List.isEmpty_iff]; exact no_legal_move_iff g b wf nk
  rw [hemp, inCheck_refines wf g.white]
  exact ⟨rfl, rfl⟩

end Jence.Props.C01
