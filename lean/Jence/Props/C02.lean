/-
  C02 — making a legal move yields the rules-defined successor.

  Model: `Jence.Move` (`src/cmove.rs`): the constructor packs eight fields into one word and the accessors unpack them;
  `Jence.makeCore` (`make_search_move` in `src/make_move.rs`), `Jence.generateMoves` (`src/move_generator.rs`).
  The consistent position `Wf g b` (Lemmas/Wf.lean): the twelve piece sets hold the board `b : square → piece` (so they
  are pairwise disjoint), the three occupancy sets are the white / black / all pieces of `b`, pawns stand on rows 2-7,
  the en-passant square and the castling rights agree with `b`, each side has exactly one king.
  `applyB b w m` is the board after the move: origin emptied, en-passant victim removed, the moved piece (or the
  piece it promotes to) on the target square, the rook hopped on castling.
-/
import Jence.Model.Types
import Jence.Lemmas.History
namespace Jence.Props.C02
open Jence

/-- **T2.4** Every accessor returns what the constructor was given, for all squares `< 64`, piece and promotion
    indices `< 16` and all flag combinations: the 24-bit packing loses nothing. -/
theorem move_pack_roundtrip (f t p pr : Nat) (cap dbl ep cas : Bool)
    (hf : f < 64) (ht : t < 64) (hp : p < 16) (hpr : pr < 16) :
    let m := Move.mk' f t p pr cap dbl ep cas
    m.fromSq = f ∧ m.toSq = t ∧ m.piece = p ∧ m.promotion = pr ∧
    m.isCapture = cap ∧ m.isDoublePush = dbl ∧ m.isEnpassant = ep ∧ m.isCastling = cas := by
  have h := mk_fields f t p pr cap dbl ep cas hf ht hp hpr
  exact ⟨h.fromSq, h.toSq, h.piece, h.promotion, h.isCapture, h.isDoublePush, h.isEnpassant, h.isCastling⟩

/-- the packing is injective: two moves with the same word have the same fields (so `==` on moves is field equality) -/
theorem move_pack_injective (f t p pr f' t' p' pr' : Nat) (c d e k c' d' e' k' : Bool)
    (hf : f < 64) (ht : t < 64) (hp : p < 16) (hpr : pr < 16) (hf' : f' < 64) (ht' : t' < 64) (hp' : p' < 16) (hpr' : pr' < 16)
    (h : Move.mk' f t p pr c d e k = Move.mk' f' t' p' pr' c' d' e' k') :
    f = f' ∧ t = t' ∧ p = p' ∧ pr = pr' ∧ c = c' ∧ d = d' ∧ e = e' ∧ k = k' := by
  have h1 := move_pack_roundtrip f t p pr c d e k hf ht hp hpr
  have h2 := move_pack_roundtrip f' t' p' pr' c' d' e' k' hf' ht' hp' hpr'
  rw [h] at h1
  obtain ⟨a1, a2, a3, a4, a5, a6, a7, a8⟩ := h1
  obtain ⟨b1, b2, b3, b4, b5, b6, b7, b8⟩ := h2
  exact ⟨a1.symm.trans b1, a2.symm.trans b2, a3.symm.trans b3, a4.symm.trans b4,
         a5.symm.trans b5, a6.symm.trans b6, a7.symm.trans b7, a8.symm.trans b8⟩

/-- no generated move is the null move: a packed move with `from ≠ to` or a non-zero piece is not `NULL_MOVE` -/
theorem mk_ne_null (f t p pr : Nat) (c d e k : Bool) (h : f ≠ 0 ∨ t ≠ 0 ∨ p ≠ 0 ∨ pr ≠ 0) :
    Move.mk' f t p pr c d e k ≠ Move.null := by
  intro heq
  have : (Move.mk' f t p pr c d e k).data = 0 := by rw [heq]; rfl
  simp only [Move.mk'] at this
  omega

example : (Move.mk' 52 36 0 12 false true false false).toUci = "e2e4" := by decide

/-- **T2.1** Making a generated move in a consistent position in which no capture aims at the enemy king (the side
    not to move is not in check): the new position is consistent again - piece sets disjoint, occupancy sets equal to
    the unions, one king each - and it is exactly the position the rules prescribe: the board is `applyB`, the side to
    move flips, the en-passant square is the square a double push passed over (none otherwise), the castling rights are
    masked by the two squares of the move, the half-move clock restarts on pawn moves and captures, the full-move
    number grows after Black's move. -/
theorem made_move_is_rules_successor (g g' : Game) (b : Board) (m : Move) (all : Bool)
    (wf : Wf g b) (nk : NoKingCapture g) (hm : m ∈ generateMoves g all) (hmk : makeCore g m = some g') :
    Wf g' (applyB b g.white m) ∧
    g'.white = (!g.white) ∧
    g'.ep = (if m.isDoublePush then (if g.white then m.toSq + 8 else m.toSq - 8) else SQNONE) ∧
    g'.castling = g.castling &&& (Gen.CASTLING_RIGHTS.getD m.toSq 0 &&& Gen.CASTLING_RIGHTS.getD m.fromSq 0) ∧
    g'.halfMoves = (if m.piece == WP || m.piece == BP || m.isCapture then 0 else (g.halfMoves + 1) % 256) ∧
    g'.fullMoves = (if g.white then g.fullMoves else (g.fullMoves + 1) % 65536) :=
  ⟨(made_step wf nk hm hmk).wf, Game.meta_eq (makeCore_meta hmk)⟩

/-- **T2.2** Refinement to the independent rules specification (`Spec.Rules`, mailbox board, coordinate arithmetic, no
    flags): for every generated move of a consistent position that `make_search_move` accepts, the rules position
    denoted by the engine's new position (`Spec.abs`, the map the run-time oracle prints as FEN) is `Spec.apply` of the
    rules position denoted by the old one - all six FEN fields. The clocks are `u8`/`u16` in the engine and unbounded in
    the specification, hence the two bounds. -/
theorem made_move_refines_rules (g g' : Game) (b : Board) (m : Move) (all : Bool)
    (wf : Wf g b) (nk : NoKingCapture g) (hm : m ∈ generateMoves g all) (hmk : makeCore g m = some g')
    (hh : g.halfMoves < 255) (hf : g.fullMoves < 65535) :
    Spec.abs g' = Spec.apply (Spec.abs g) (smove m) :=
  (made_step wf nk hm hmk).abs hh hf

/-- what consistency says in the engine's own terms: the piece sets are pairwise disjoint -/
theorem wf_disjoint (g : Game) (b : Board) (wf : Wf g b) (p q t : Nat) (hp : p < 12) (hq : q < 12) (ht : t < 64) (hne : p ≠ q) :
    ¬ (getBit (g.bb p) t = true ∧ getBit (g.bb q) t = true) := by
  intro ⟨h1, h2⟩
  have h := ((wf.bit_iff hp ht).1 h1).symm.trans ((wf.bit_iff hq ht).1 h2)
  injection h with h; exact hne h

private theorem occ_iff (g : Game) (b : Board) (wf : Wf g b) (f : Option Nat → Bool) (x : UInt64) (hf : f none = false)
    (h : OccF f x b) (t : Nat) (ht : t < 64) :
    getBit x t = true ↔ ∃ p, p < 12 ∧ f (some p) = true ∧ getBit (g.bb p) t = true := by
  rw [h t ht]
  constructor
  · intro hh
    cases hb : b t with
    | none => rw [hb, hf] at hh; exact absurd hh (by simp)
    | some v =>
      have hv := wf.ok.valid t v ht hb
      exact ⟨v, hv, by rw [hb] at hh; exact hh, (wf.bit_iff hv ht).2 hb⟩
  · intro ⟨p, hp, hfp, hbit⟩
    rw [(wf.bit_iff hp ht).1 hbit]; exact hfp

/-- ... the occupancy sets are the unions of the piece sets -/
theorem wf_occupancy (g : Game) (b : Board) (wf : Wf g b) (t : Nat) (ht : t < 64) :
    (getBit g.whiteOcc t = true ↔ ∃ p, p < 6 ∧ getBit (g.bb p) t = true) ∧
    (getBit g.blackOcc t = true ↔ ∃ p, 6 ≤ p ∧ p < 12 ∧ getBit (g.bb p) t = true) ∧
    (getBit g.allOcc t = true ↔ ∃ p, p < 12 ∧ getBit (g.bb p) t = true) := by
  refine ⟨(occ_iff g b wf whiteAt _ rfl wf.occW t ht).trans ?_, (occ_iff g b wf blackAt _ rfl wf.occB t ht).trans ?_,
    (occ_iff g b wf Option.isSome _ rfl wf.occA t ht).trans ?_⟩
  · exact ⟨fun ⟨p, _, hf, hb⟩ => ⟨p, by simpa [whiteAt] using hf, hb⟩,
      fun ⟨p, hp, hb⟩ => ⟨p, by omega, by simpa [whiteAt] using hp, hb⟩⟩
  · exact ⟨fun ⟨p, hp, hf, hb⟩ => ⟨p, by simpa [blackAt] using hf, hp, hb⟩,
      fun ⟨p, hp, hp12, hb⟩ => ⟨p, hp12, by simpa [blackAt] using hp, hb⟩⟩
  · exact ⟨fun ⟨p, hp, _, hb⟩ => ⟨p, hp, hb⟩, fun ⟨p, hp, hb⟩ => ⟨p, hp, rfl, hb⟩⟩

/-- ... and each side has exactly one king -/
theorem wf_kings (g : Game) (b : Board) (wf : Wf g b) :
    (∃ k, k < 64 ∧ ∀ t, t < 64 → (getBit (g.bb WK) t = true ↔ t = k)) ∧
    (∃ k, k < 64 ∧ ∀ t, t < 64 → (getBit (g.bb BK) t = true ↔ t = k)) := by
  obtain ⟨k, hk, hbk, hu⟩ := wf.ok.wking
  obtain ⟨k', hk', hbk', hu'⟩ := wf.ok.bking
  refine ⟨⟨k, hk, fun t ht => ?_⟩, ⟨k', hk', fun t ht => ?_⟩⟩
  · rw [wf.bit_iff (q := WK) (by decide) ht]; exact ⟨hu t ht, fun h => by rw [h]; exact hbk⟩
  · rw [wf.bit_iff (q := BK) (by decide) ht]; exact ⟨hu' t ht, fun h => by rw [h]; exact hbk'⟩

/-- **T2.3** Histories: from a consistent position in which the side not to move is not in check (both decidable and
    evaluated on every root), any sequence of generated moves that `make_search_move` accepts ends in a consistent
    position whose board is the rules' board after the moves - a stale occupancy bit or castling right cannot surface
    any number of plies later. The "no capture aims at a king" condition is an invariant, not a hypothesis per step:
    `make_search_move` refuses a move that leaves the mover's king attacked, and the reverse lookup of
    `is_square_attacked` finds every attacker the generator would (attack symmetry, `Lemmas/AttackSym`). -/
theorem history_consistent (g0 g : Game) (b0 : Board) (ms : List Move) (wf : Wf g0 b0) (nk : NoKingCapture g0)
    (hp : GenPath g0 ms) (hplay : playAll g0 ms = some g) :
    Wf g (boardAfter b0 g0.white ms) ∧ NoKingCapture g :=
  let h := history_wf_root ms g0 g b0 wf nk hp hplay
  ⟨h.1, h.2.1⟩

/-- one step of that invariant: after an accepted move no generated capture aims at the mover's king -/
theorem accepted_move_king_safe (g g' : Game) (b : Board) (m : Move) (all : Bool) (wf : Wf g b) (nk : NoKingCapture g)
    (hm : m ∈ generateMoves g all) (hmk : makeCore g m = some g') : NoKingCapture g' :=
  (made_step wf nk hm hmk).nk

/-- consistency is decidable (`WfD`), and the decision implies `Wf` for the board read off the piece sets: the roots
    the histories start from are checked by evaluation -/
theorem consistent_of_decision (g : Game) (h : WfD g) : Wf g (boardOf g) := h.wf

def startGame : Game :=
  { bbs := #[0x00ff000000000000, 0x4200000000000000, 0x2400000000000000, 0x8100000000000000, 0x0800000000000000, 0x1000000000000000,
             0x000000000000ff00, 0x0000000000000042, 0x0000000000000024, 0x0000000000000081, 0x0000000000000008, 0x0000000000000010],
    whiteOcc := 0xffff000000000000, blackOcc := 0x000000000000ffff, allOcc := 0xffff00000000ffff,
    white := true, ep := 64, castling := 15, fullMoves := 1, halfMoves := 0, key := 0x1210176a3cef702f }

/-- the hypotheses are satisfiable: the start position (as the engine dumps it) is consistent -/
theorem start_consistent : WfD startGame := by decide +kernel

end Jence.Props.C02
