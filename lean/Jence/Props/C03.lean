/-
  C03 — every search request is answered with a legal best move.

  Model: `Jence.search` (`src/search.rs`, including the fallback added by commit `0cbdbfa`), generic in the rules.
-/
import Jence.Lemmas.PvHead
import Jence.Lemmas.NoOverflow
import Jence.Lemmas.LegalMoves
import Jence.Props.C01
namespace Jence.Props.C03
open Jence

/-- what `search` answers, whatever happens to the history array: a generated root move that `make` accepts (the head
    of the principal variation, `Lemmas/PvHead`), or the first legal move when there is no principal variation yet -/
theorem search_bestmove (R : Rules) (cfg : Cfg) (g : Game) (depth : Int) (tt : TT) (rep : RepTable) (hfl : (R.firstLegal g).isSome) :
    let b := (search R cfg g depth tt rep).1.bestMove
    (b ∈ R.generate g true ∧ (R.make g b).isSome) ∨ R.firstLegal g = some b := by
  obtain ⟨hb, _⟩ := search_eq R cfg g depth tt rep
  have hk : PvHeadOk R g (searchLoopEnd R cfg g depth tt rep).2.2 :=
    idLoop_pvhead R cfg g _ 1 _ _ 0 (Env.fresh tt rep) rfl (fresh_pvhead R g tt rep)
  rw [hb]
  split
  · -- no principal variation yet: the fallback of commit `0cbdbfa`
    obtain ⟨m, hm⟩ := Option.isSome_iff_exists.mp hfl
    right
    rw [hm]
    rfl
  · rename_i hn
    exact Or.inl (hk.resolve_left fun h => hn (by rw [h]; rfl))

/-- **T3.1** Whenever the position has a legal move (`firstLegal` finds one), the move `search` answers with is
    * a move the generator produced for the root position that `make` accepted (not leaving the mover in check), or
    * the first move of the legal list (when no principal variation exists yet) —
    for every depth (fixed, or −1 = unlimited), every time budget, every transposition-table content, every game
    history, every poll predicate and every schedule of stop requests / deadlines / other input (`cfg.world`): in
    particular for a stop seen at the 0th, 1st, … k-th poll and for every half-move clock (the rules instance decides
    what the root does at clock 100; the theorem does not care). -/
theorem bestmove_legal (R : Rules) (cfg : Cfg) (g : Game) (depth : Int) (tt : TT) (rep : RepTable)
    (hfl : (R.firstLegal g).isSome) (ho : (search R cfg g depth tt rep).2.rep.overflow = false) :
    let b := (search R cfg g depth tt rep).1.bestMove
    (b ∈ R.generate g true ∧ (R.make g b).isSome) ∨ R.firstLegal g = some b :=
  search_bestmove R cfg g depth tt rep hfl

/-- **T3.1 for chess.** The answer is a move of the engine's legal list — by `Props/C01.legality_paths_agree` (T1.2) the
    filter route and the make route single out the same moves, so both cases of `bestmove_legal` land there.
    (That the legal list is the rules' legal set: `search_bestmove_rules` below.) -/
theorem bestmove_legal_chess (cfg : Cfg) (g : Game) (depth : Int) (tt : TT) (rep : RepTable) (hep : g.ep ≤ 64)
    (hne : legalValues g ≠ []) : (search chessRules cfg g depth tt rep).1.bestMove ∈ legalValues g := by
  have hfl : (chessRules.firstLegal g).isSome := by
    simp only [chessRules]
    cases h : legalValues g with
    | nil => exact absurd h hne
    | cons a l => simp
  rcases search_bestmove chessRules cfg g depth tt rep hfl with h | h
  · simp only [chessRules] at h
    rw [C01.legalValues_eq_made g hep]
    exact List.mem_filter.mpr ⟨h.1, h.2⟩
  · simp only [chessRules] at h
    exact List.mem_of_mem_head? h

/-- **T3.2** the printed form: from-square, to-square, and a promotion letter exactly when the move promotes -/
theorem toUci_shape (m : Move) :
    m.toUci = Gen.SQUARE_STRINGS.getD m.fromSq "" ++ Gen.SQUARE_STRINGS.getD m.toSq "" ++
      (if m.promotion != PNONE then (Gen.PIECE_STRINGS.getD m.promotion "").toLower else "") := rfl

/-- the last line `search` prints is the `bestmove` line for the move it returns -/
theorem bestmove_line (R : Rules) (cfg : Cfg) (g : Game) (depth : Int) (tt : TT) (rep : RepTable) :
    (search R cfg g depth tt rep).2.out.back? = some s!"bestmove {(search R cfg g depth tt rep).1.bestMove.toUci}" := by
  obtain ⟨hb, _, _, _, he⟩ := search_eq R cfg g depth tt rep
  rw [he, hb]
  simp [Env.print]

/-- **T3.0** (the control flow before commit `0cbdbfa`) printed `pv_table[0][0]` unconditionally: with the stop seen at
    the very first poll the table is still empty and the answer was the null move `a8a8p`
    (replays `replays/prefix/D1_*`): squares a8, a8 and, because its promotion field is 0 = white pawn rather than 12 = none,
    a promotion letter. The null move is not a generated move of any position. -/
theorem legacy_null_answer : Move.null.fromSq = 0 ∧ Move.null.toSq = 0 ∧ Move.null.promotion ≠ PNONE := by decide

/-- **T3.1, against the rules.** For a consistent root position in which the side not to move is not in check, the move
    `search` answers with denotes a move that is legal by the rules specification (`Spec.legalMoves`), for every depth,
    table content, history, poll predicate and input schedule - whatever happens to the history array. -/
theorem search_bestmove_rules (cfg : Cfg) (g : Game) (b : Board) (depth : Int) (tt : TT) (rep : RepTable)
    (wf : Wf g b) (nk : NoKingCapture g) (hne : legalValues g ≠ []) :
    smove (search chessRules cfg g depth tt rep).1.bestMove ∈ Spec.legalMoves (Spec.abs g) :=
  (legal_refines wf nk _).2 ⟨_, bestmove_legal_chess cfg g depth tt rep wf.ok.epLe hne, rfl⟩

/-- the same under the hypothesis that the history array did not overflow, which is not used -/
theorem bestmove_rules_legal (cfg : Cfg) (g : Game) (b : Board) (depth : Int) (tt : TT) (rep : RepTable)
    (wf : Wf g b) (nk : NoKingCapture g) (hne : legalValues g ≠ [])
    (ho : (search chessRules cfg g depth tt rep).2.rep.overflow = false) :
    smove (search chessRules cfg g depth tt rep).1.bestMove ∈ Spec.legalMoves (Spec.abs g) :=
  search_bestmove_rules cfg g b depth tt rep wf nk hne

/-- **T3.1 with the overflow hypothesis discharged**: the same whenever the history handed to `search` leaves 65 free
    slots in the history array (`HistoryRoom`: every game of up to `REP_CAPACITY - 65` = 935 recorded positions; longer ones
    are finding D7) -/
theorem bestmove_rules_legal_of_room (cfg : Cfg) (g : Game) (b : Board) (depth : Int) (tt : TT) (rep : RepTable)
    (wf : Wf g b) (nk : NoKingCapture g) (hne : legalValues g ≠ []) (hroom : HistoryRoom rep) :
    smove (search chessRules cfg g depth tt rep).1.bestMove ∈ Spec.legalMoves (Spec.abs g) :=
  search_bestmove_rules cfg g b depth tt rep wf nk hne

end Jence.Props.C03
