/-
  C04 — position keys: the maintained key is the from-scratch key after every move and null move (T4.1, T4.2), what the
  from-scratch key depends on (T4.3), and the key tables (T4.4).

  Model: `Jence.scratchKey` (`Game::make_zobrist_hash`), `Jence.nullMoveOf` (the null-move block of `negamax`).
-/
import Jence.Model.Search
import Jence.Lemmas.History
import Jence.Lemmas.KeyTables
namespace Jence.Props.C04
open Jence

/-- **T4.3** The key computed from scratch is a function of piece placement, side to move, castling rights and
    en-passant square alone: clocks, cached occupancies and the stored key never influence it. -/
theorem key_depends_only_on (g h : Game) (hb : g.bbs = h.bbs) (hs : g.white = h.white)
    (hc : g.castling = h.castling) (he : g.ep = h.ep) : scratchKey g = scratchKey h := by
  unfold scratchKey Game.bb
  rw [hb, hs, hc, he]

theorem key_ignores (g : Game) (w b a : UInt64) (half full : Nat) (k : UInt64) :
    scratchKey { g with whiteOcc := w, blackOcc := b, allOcc := a, halfMoves := half, fullMoves := full, key := k }
      = scratchKey g := rfl

/-- **T4.2** The null-move update in `negamax` yields the from-scratch key of the passed position whenever the key was
    right before. -/
theorem null_move_key (g : Game) (h : g.key = scratchKey g) : (nullMoveOf g).key = scratchKey (nullMoveOf g) := by
  unfold nullMoveOf
  unfold scratchKey at h ⊢
  simp only [Game.bb] at h ⊢
  rw [h]
  by_cases hep : g.ep = SQNONE
  · cases hw : g.white <;> simp [hep, xor_cancel]
  · -- the same keys go in and out again, in another order
    cases hw : g.white <;> simp [hep, UInt64.xor_comm, xor_left_comm, xor_cancel_left]

/-- **T4.1** One move: in a consistent position (`Wf`, see C02) in which no capture aims at the enemy king, making
    any generated move - castling, en passant, promotion, capture on a rook's home square with an en-passant square
    pending, any combination - keeps the incrementally maintained key equal to the key computed from scratch. -/
theorem made_move_key (g g' : Game) (b : Board) (m : Move) (all : Bool) (wf : Wf g b) (nk : NoKingCapture g)
    (hm : m ∈ generateMoves g all) (hkey : g.key = scratchKey g) (hmk : makeCore g m = some g') :
    g'.key = scratchKey g' :=
  (made_step wf nk hm hmk).key hkey

/-- **T4.1, histories** After any sequence of generated moves that `make_search_move` accepts, from a consistent
    position whose key is right and in which the side not to move is not in check, the maintained key is the
    from-scratch key of the position reached. -/
theorem history_key (g0 g : Game) (b0 : Board) (ms : List Move) (wf : Wf g0 b0) (nk : NoKingCapture g0) (hp : GenPath g0 ms)
    (hkey : g0.key = scratchKey g0) (hplay : playAll g0 ms = some g) : g.key = scratchKey g :=
  (history_wf_root ms g0 g b0 wf nk hp hplay).2.2 hkey

/-- the key update alone needs less than consistency: `MoveOk` (the squares the move touches hold what its fields
    claim) suffices, for any move word -/
theorem moveOk_key (g g' : Game) (m : Move) (hkey : g.key = scratchKey g) (ok : MoveOk g m) (hmk : makeCore g m = some g') :
    g'.key = scratchKey g' := makeCore_key g g' m hkey ok hmk

/-- **T4.4a** The key tables contain no zero and no repeated entry: 849 keys (768 piece keys, 64 en-passant keys, 16
    castling keys, the side key), as the model computes them from the generated seeds with the engine's xorshift
    generator (the harness compares the same 849 values with the running binary's dump on every run). -/
theorem key_tables_no_zero_no_repeat : allKeys.Nodup ∧ (0 : UInt64) ∉ allKeys ∧ allKeys.length = 849 ∧
    PIECE_KEYS_FLAT.toList ++ ENPASSANT_KEYS.toList ++ CASTLE_KEYS.toList ++ [SIDE_KEY] = allKeys :=
  ⟨key_tables_sound.1, key_tables_sound.2.1, key_tables_sound.2.2, tables_are_allKeys⟩

/-- **T4.4b** Positions that differ only by a quiet move never share a key. -/
theorem quiet_move_never_shares_key (k : UInt64) (p a b : Nat) (hp : p < 12) (ha : a < 64) (hb : b < 64) (hab : a ≠ b) :
    k ^^^ pieceKey p a ^^^ pieceKey p b ≠ k := quiet_move_changes_key k p a b hp ha hb hab

/-- **T4.4c** … nor by a simple capture: the mover's two keys and the victim's key never cancel (all 12 x 64 x 64 x 12
    combinations). -/
theorem simple_capture_never_shares_key (k : UInt64) (p a b v : Nat) (hp : p < 12) (ha : a < 64) (hb : b < 64) (hv : v < 12) :
    k ^^^ pieceKey p a ^^^ pieceKey p b ^^^ pieceKey v b ≠ k := simple_capture_changes_key k p a b v hp ha hb hv

/-- **T4.4d** … nor by the side to move. -/
theorem side_to_move_never_shares_key (k : UInt64) : k ^^^ SIDE_KEY ≠ k := side_switch_changes_key k

end Jence.Props.C04
