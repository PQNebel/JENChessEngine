/-
  C05 — `position` reconstructs the exact game state (the parts about move strings and the recorded history).

  Model: `Jence.parseMove` (`Game::parse_move`), `Jence.replayMoves` / `Jence.parsePosition` (`parse_position` in
  `src/main.rs`), `Jence.RepTable` (`src/repetition_table.rs`).
-/
import Jence.Model.Fen
import Jence.Props.C01
import Jence.Lemmas.UciString
import Jence.Lemmas.GenNodup
import Jence.Lemmas.LegalMoves
import Jence.Lemmas.RepTable
namespace Jence.Props.C05
open Jence

theorem squareFromString_le (s : String) (i : Nat) (h : squareFromString s = some i) : i ≤ 64 := by
  unfold squareFromString at h
  split at h
  · simp only at h
    split at h
    · cases h
    split at h
    · cases h
    split at h
    · cases h
    -- the last test of the reader is the bound
    split at h
    · rename_i hlt; injection h with h; omega
    · cases h
  · cases h

theorem parseEp_le (s : String) (i : Nat) (h : parseEp s = some i) : i ≤ 64 := by
  unfold parseEp at h
  split at h
  · exact squareFromString_le s i h
  · simp only [Option.some.injEq] at h; rw [← h]; decide

theorem parseFen_ep (s : String) (g : Game) (h : parseFen s = .ok g) : g.ep ≤ 64 := by
  unfold parseFen at h
  simp only at h
  split at h
  · cases h
  split at h
  · cases h
  split at h
  · cases h
  split at h
  · cases h
  rename_i ep hep
  split at h
  · injection h with h; rw [← h]; exact parseEp_le _ _ hep
  · cases h

/-- **T5.3a** A string is accepted only if it is the UCI string of a move of the engine's legal list, and that move is
    what `parse_move` returns. -/
theorem parseMove_sound (g : Game) (s : String) (m : Move) (h : parseMove g s = some m) :
    m ∈ legalValues g ∧ m.toUci = s := by
  unfold parseMove at h
  have h1 := List.mem_of_find?_eq_some h
  have h2 := List.find?_some h
  exact ⟨h1, by simpa using h2⟩

/-- **T5.3b** Every string that is the UCI string of a legal move is accepted. -/
theorem parseMove_complete (g : Game) (s : String) (m : Move) (hm : m ∈ legalValues g) (hs : m.toUci = s) :
    ∃ m', parseMove g s = some m' ∧ m'.toUci = s := by
  unfold parseMove
  cases h : List.find? (fun m => m.toUci == s) (legalValues g) with
  | none =>
    have := List.find?_eq_none.mp h m hm
    simp [hs] at this
  | some m' => exact ⟨m', rfl, by simpa using List.find?_some h⟩

/-- **T5.3** accepted strings = strings of legal moves -/
theorem parseMove_accepts_exactly (g : Game) (s : String) :
    (parseMove g s).isSome ↔ ∃ m ∈ legalValues g, m.toUci = s := by
  constructor
  · intro h
    obtain ⟨m, hm⟩ := Option.isSome_iff_exists.mp h
    exact ⟨m, parseMove_sound g s m hm⟩
  · rintro ⟨m, hm, hs⟩
    obtain ⟨m', h', _⟩ := parseMove_complete g s m hm hs
    simp [h']

/-- **T5.2** In a consistent position in which the side not to move is not in check, no two different moves of the
    generated list - in particular no two legal moves - have the same UCI string: the string fixes source square, target
    square and promotion kind, and those fix the move word. -/
theorem uci_strings_distinct {g : Game} {b : Board} (wf : Wf g b) (nk : NoKingCapture g) (m1 m2 : Move)
    (h1 : m1 ∈ generateMoves g true) (h2 : m2 ∈ generateMoves g true) (h : m1.toUci = m2.toUci) : m1 = m2 := by
  have f1 := gen_fits wf nk true m1 h1
  have f2 := gen_fits wf nk true m2 h2
  exact smove_inj wf nk m1 m2 h1 h2
    (toUci_determines m1 m2 f1.fromLt f1.toLt f2.fromLt f2.toLt (fun hp => ownP_lt (f1.promo hp).1) (fun hp => ownP_lt (f2.promo hp).1) h)

/-- **T5.2/T5.3** every legal move is what its own UCI string parses to -/
theorem parseMove_toUci {g : Game} {b : Board} (wf : Wf g b) (nk : NoKingCapture g) (m : Move) (hm : m ∈ legalValues g) :
    parseMove g m.toUci = some m := by
  obtain ⟨m', h', hs⟩ := parseMove_complete g m.toUci m hm rfl
  have hm' := (parseMove_sound g m.toUci m' h').1
  have e : m' = m := uci_strings_distinct wf nk m' m (List.mem_filter.1 hm').1 (List.mem_filter.1 hm).1 hs
  rw [h', e]

/-- the string of a legal move names the rules move it denotes: accepted strings correspond one to one to the legal moves
    of the rules specification -/
theorem accepted_string_names_rules_move {g : Game} {b : Board} (wf : Wf g b) (nk : NoKingCapture g) (s : String) (m : Move)
    (h : parseMove g s = some m) : smove m ∈ Spec.legalMoves (Spec.abs g) ∧ m.toUci = s := by
  obtain ⟨hm, hs⟩ := parseMove_sound g s m h
  exact ⟨(legal_refines wf nk _).2 ⟨m, hm, rfl⟩, hs⟩

/-- the positions a move list leads through (each move parsed against, and made in, the position before it) -/
def playAll : Game → List String → Option (List Game)
  | _, [] => some []
  | g, mv :: rest =>
    match parseMove g mv with
    | none => none
    | some m => match makeCore g m with
      | none => none
      | some g' => (playAll g' rest).map (g' :: ·)

/-- **T5.1a** Replaying a move list (within the capacity of the history array) ends in the last position of `playAll`
    and appends exactly the keys of the positions passed through, in order. -/
theorem replay_history (mvs : List String) (g : Game) (hep : g.ep ≤ 64) (rep : RepTable) (g' : Game) (rep' : RepTable)
    (h : replayMoves mvs g rep = .ok (g', rep')) (hov : rep.overflow = false) :
    ∃ gs, playAll g mvs = some gs ∧ gs.length = mvs.length ∧ g' = (g :: gs).getLast (by simp) ∧
      rep'.pre = rep.pre ++ gs.map (·.key) ∧ rep'.index = rep.index + mvs.length := by
  induction mvs generalizing g rep with
  | nil =>
    simp only [replayMoves, Res.ok.injEq, Prod.mk.injEq] at h
    obtain ⟨rfl, rfl⟩ := h
    exact ⟨[], rfl, rfl, rfl, by simp, by simp⟩
  | cons mv rest ih =>
    simp only [replayMoves] at h
    cases hp : parseMove g mv with
    | none => simp [hp] at h
    | some m =>
      simp only [hp] at h
      -- a move of the legal list can be made, so `make_search_move` returns the new position and the extended history
      cases hc : makeCore g m with
      | none =>
        have := C01.legal_moves_can_be_made g hep m (parseMove_sound g mv m hp).1
        simp [hc] at this
      | some g3 =>
        have hm : makeSearchMove g m rep = some (g3, rep.insert g3.key) := by unfold makeSearchMove; rw [hc]; rfl
        simp only [hm] at h
        have hlt : rep.index < rep.table.size := by
          by_cases hlt : rep.index < rep.table.size
          · exact hlt
          · have : (rep.insert g3.key).overflow = true := by simp [RepTable.insert, hlt]
            simp [this] at h
        obtain ⟨hpre, hidx, hsz, hovf⟩ := RepTable.insert_pre rep g3.key hlt
        have hov2 : (rep.insert g3.key).overflow = false := by rw [hovf, hov]
        simp only [hov2, Bool.false_eq_true, ↓reduceIte] at h
        have hep3 : g3.ep ≤ 64 :=
          C01.makeCore_ep g g3 m (C01.generated_shape g true hep m (List.mem_filter.mp (parseMove_sound g mv m hp).1).1) hc
        obtain ⟨gs, hgs, hlen, hlast, hp', hi'⟩ := ih g3 hep3 (rep.insert g3.key) h hov2
        refine ⟨g3 :: gs, by simp [playAll, hp, hc, hgs], by simp [hlen], ?_, ?_, ?_⟩
        · rw [hlast]; simp [List.getLast_cons]
        · rw [hp', hpre]; simp
        · rw [hi', hidx]; simp; omega

/-- **T5.1** `position [startpos|fen F] [moves …]`: when the command succeeds, the engine is left in the last position of
    the game that starts at the base position, and the recorded history is the key of *every* position of that game,
    from the base position through the final one (in order, nothing else) — commit `0eb7154` added the base position.
    A move list that would overrun the history array does not succeed (recorded finding D7). -/
theorem position_history (args : String) (g : Game) (rep : RepTable) (h : parsePosition args RepTable.new = .ok (g, rep)) :
    ∃ base mvs gs, playAll base mvs = some gs ∧ gs.length = mvs.length ∧ g = (base :: gs).getLast (by simp) ∧
      rep.pre = (base :: gs).map (·.key) ∧ rep.index = mvs.length + 1 := by
  unfold parsePosition at h
  simp only at h
  split at h
  · simp at h
  · simp at h
  · rename_i base rest hb
    have hbase : base.ep ≤ 64 := by
      revert hb
      split
      · split
        · rename_i g0 hg0
          intro hb; simp only [Res.ok.injEq, Prod.mk.injEq] at hb; rw [← hb.1]; exact parseFen_ep _ _ hg0
        · intro hb; simp at hb
      · split
        · split
          · intro hb; simp at hb
          · split
            · rename_i g0 hg0
              intro hb; simp only [Res.ok.injEq, Prod.mk.injEq] at hb; rw [← hb.1]; exact parseFen_ep _ _ hg0
            · intro hb; simp at hb
            · intro hb; simp at hb
        · intro hb; simp at hb
    obtain ⟨ho, hp, hi⟩ : (RepTable.new.insert base.key).overflow = false ∧ (RepTable.new.insert base.key).pre = [base.key] ∧
        (RepTable.new.insert base.key).index = 1 := by
      have hlt : RepTable.new.index < RepTable.new.table.size := by simp [RepTable.new]; decide
      obtain ⟨h1, h2, _, h4⟩ := RepTable.insert_pre RepTable.new base.key hlt
      exact ⟨by rw [h4]; rfl, by rw [h1]; rfl, by rw [h2]; rfl⟩
    simp only [ho, Bool.false_eq_true, ↓reduceIte] at h
    split at h
    · rename_i mvs _
      obtain ⟨gs, h1, h2, h3, h4, h5⟩ := replay_history mvs base hbase _ g rep h ho
      exact ⟨base, mvs, gs, h1, h2, h3, by rw [h4, hp]; rfl, by rw [h5, hi]; omega⟩
    · simp only [Res.ok.injEq, Prod.mk.injEq] at h
      obtain ⟨rfl, rfl⟩ := h
      exact ⟨base, [], [], rfl, rfl, rfl, by rw [hp]; rfl, by rw [hi]; rfl⟩

end Jence.Props.C05
