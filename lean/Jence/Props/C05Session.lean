/-
  C05 at the command loop (`Model/Uci`): what a `position` line leaves behind does not depend on what the session did
  before - it is what the same line leaves in a freshly started process.
-/
import Jence.Props.C13Session
namespace Jence.Props.C05
open Jence

/-- **T5.1 at the command loop** In any session state (any earlier games and searches; history array not overflowed), a
    `position` line whose arguments a fresh process parses to the game `g` with history `rep` leaves this session with
    the same game and the same recorded history. -/
theorem session_position_like_fresh (W : Nat → Cfg) (s : Session) (line : String) (hne : line ≠ "")
    (h : Env.firstWordLower line = "position") (hmore : (line.splitOn " ").length ≥ 2)
    (ho : s.rep.overflow = false) (hsz : s.rep.table.size = Gen.REP_CAPACITY) (g : Game) (rep : RepTable)
    (hnew : parsePosition (String.ofList (line.toList.drop 9)) RepTable.new = .ok (g, rep)) :
    (s.step W line).1.game = g ∧ (s.step W line).1.rep.pre = rep.pre ∧ (s.step W line).1.rep.index = rep.index ∧
    (s.step W line).1.panicked = s.panicked := by
  rw [C13.session_position W s line hne h hmore]
  have hx := parsePosition_ext (String.ofList (line.toList.drop 9)) s.rep.clear RepTable.new (clear_like_new s.rep ho hsz)
  rw [hnew] at hx
  cases hp : parsePosition (String.ofList (line.toList.drop 9)) s.rep.clear with
  | ok a =>
    obtain ⟨g1, r1⟩ := a
    rw [hp] at hx
    obtain ⟨hg, hr⟩ := hx
    exact ⟨hg, hr.pre, hr.1, rfl⟩
  | none => rw [hp] at hx; exact absurd hx (by simp [ResEq])
  | panic => rw [hp] at hx; exact absurd hx (by simp [ResEq])

end Jence.Props.C05
