/-
  C06 — what is proved of it: the search steps only into consistent positions (T6.1), the move ordering loses nothing
  (T6.2), terminal verdicts are right (T6.3), and the main search stays within the ply limit (`ply_cap`).

  Model: `sortMoves`, `moveLoop`, `finish` (`src/move_list.rs`, `src/search.rs`), generic in the rules.
-/
import Jence.Lemmas.EnvOps
import Jence.Lemmas.LegalMoves
namespace Jence.Props.C06
open Jence

/-- **T6.2** `sort_moves` returns a permutation of the generated list (no move lost, invented or duplicated), whatever the
    killers, history scores and PV say. -/
theorem sort_is_permutation (g : Game) (ms : List Move) (e : Env) : (sortMoves g ms e).1.Perm ms := sortMoves_perm g ms e

/-- the loop's counter of legal moves is zero at the end only if no move of the list could be made -/
theorem moveLoop_no_legal (R : Rules) (cfg : Cfg) (rec : Game → Nat → Int → Int → Env → Int × Env) (g : Game)
    (depth nDepth : Nat) (inCheck : Bool) (beta : Int) :
    ∀ (ms : List Move) (ta : Int) (flag : Flag) (legal searched : Nat) (e : Env) (ta' : Int) (fl' : Flag),
      (moveLoop R cfg rec g depth nDepth inCheck beta ms ta flag legal searched e).1 = .done ta' fl' 0 →
      legal = 0 ∧ ∀ m ∈ ms, R.make g m = none := by
  intro ms ta flag legal searched e
  fun_induction moveLoop R cfg rec g depth nDepth inCheck beta ms ta flag legal searched e
  -- the cases, in the order of the loop: no move left; `make` fails; stopped after the child; cut-off; the move raises alpha; it does not
  next => exact fun ta' fl' h => ⟨(LoopOut.done.inj h).2.2, fun m hm => by cases hm⟩
  next hmk ih =>
    intro ta' fl' h
    obtain ⟨h1, h2⟩ := ih ta' fl' h
    exact ⟨h1, List.forall_mem_cons.2 ⟨hmk, h2⟩⟩
  next => exact fun _ _ h => by cases h
  next => exact fun _ _ h => by cases h
  -- after a move that could be made the counter is positive
  next ih => exact fun ta' fl' h => absurd (ih ta' fl' h).1 (Nat.succ_ne_zero _)
  next ih => exact fun ta' fl' h => absurd (ih ta' fl' h).1 (Nat.succ_ne_zero _)

/-- **T6.3** Whenever the search declares a node checkmate (score `−MATE_VALUE + ply`) or stalemate (score 0) — i.e.
    `finish` goes through its "no legal move" branch — no generated move of that node survives `make`, and the verdict
    is checkmate exactly when the side to move is in check. -/
theorem terminal_verdict (R : Rules) (cfg : Cfg) (rec : Game → Nat → Int → Int → Env → Int × Env) (g : Game)
    (depth nDepth : Nat) (alpha beta : Int) (e : Env) (ta : Int) (fl : Flag)
    (h : (moveLoop R cfg rec g depth nDepth (R.inCheck g) beta (sortMoves g (R.generate g true) e).1 alpha .alpha 0 0
            (sortMoves g (R.generate g true) e).2).1 = .done ta fl 0) :
    (∀ m ∈ R.generate g true, R.make g m = none) ∧
    (finish cfg g depth (R.inCheck g) (.done ta fl 0, e)).1 = (if R.inCheck g then -Gen.MATE_VALUE + e.ply else 0) := by
  obtain ⟨_, h2⟩ := moveLoop_no_legal R cfg rec g depth nDepth (R.inCheck g) beta _ _ _ _ _ _ ta fl h
  refine ⟨fun m hm => h2 m ((sortMoves_mem g (R.generate g true) e m).mpr hm), ?_⟩
  simp only [finish, beq_self_eq_true, ↓reduceIte]
  obtain ⟨d, n, lg, hev⟩ := ev_eq cfg e [5, e.ply.toUInt64, g.key, b2w (R.inCheck g)]
    (fun _ => s!"verdict {e.ply} {hex16 g.key} {if R.inCheck g then "mate" else "stalemate"}")
  rw [hev]

/-- every node the main search examines lies within the ply limit: a frame entered at ply ≥ `MAX_PLY − 1` returns the
    static evaluation without descending (for chess: ply 63; quiescence stops at ply 64) -/
theorem ply_cap (R : Rules) (cfg : Cfg) (rec : Game → Nat → Int → Int → Env → Int × Env) (g : Game) (depth : Nat)
    (alpha beta : Int) (e : Env) (h : e.ply ≥ Gen.MAX_PLY - 1) :
    (afterProbe R cfg rec g depth alpha beta e).1 = R.evaluate g := by
  unfold afterProbe
  rw [if_pos h]

/-- **T6.1** The search only ever steps into consistent positions: a child the move loop recurses into (a generated move
    that `make_search_move` accepted) is consistent again, no capture in it aims at a king, its key is the from-scratch
    key, and it is the rules' successor position. By induction every node of every search tree has these properties
    whenever the root has them. -/
theorem children_consistent (g g' : Game) (b : Board) (m : Move) (all : Bool)
    (wf : Wf g b) (nk : NoKingCapture g) (hkey : g.key = scratchKey g) (hm : m ∈ chessRules.generate g all)
    (hmk : chessRules.make g m = some g') :
    Wf g' (applyB b g.white m) ∧ NoKingCapture g' ∧ g'.key = scratchKey g' ∧
    (Spec.abs g').board = (Spec.apply (Spec.abs g) (smove m)).board := by
  obtain ⟨wf', nk', hk, hb, _⟩ := made_step wf nk (show m ∈ generateMoves g all from hm) (show makeCore g m = some g' from hmk)
  exact ⟨wf', nk', hk hkey, hb⟩

/-- **T6.3, against the rules.** Where the engine finds no generated move that survives `make`, the rules position has
    no legal move; so the mate / stalemate verdict of `terminal_verdict` is the rules' verdict. -/
theorem terminal_verdict_rules (g : Game) (b : Board) (wf : Wf g b) (nk : NoKingCapture g)
    (h : ∀ m ∈ generateMoves g true, makeCore g m = none) :
    Spec.legalMoves (Spec.abs g) = [] ∧ isInCheck g g.white = Spec.inCheck (Spec.abs g) (Spec.abs g).white :=
  ⟨no_made_no_legal wf nk h, inCheck_refines wf g.white⟩

end Jence.Props.C06
