/-
  C07 — repetition draws are recognised exactly with respect to the game history.

  Model: the head of `negamax` after commit `f05efd1` (`src/search.rs`, `src/repetition_table.rs`): the node's own key is
  looked up among the recorded history keys before the transposition table is consulted. Positions are identified with
  their 64-bit keys, as the engine does (trusted base).
-/
import Jence.Lemmas.Frame
namespace Jence.Props.C07
open Jence

/-- `is_now_in_threefold_repetition(key)`: the key is one of the recorded ones -/
theorem isRepetition_iff (r : RepTable) (k : UInt64) : r.isRepetition k = true ↔ k ∈ r.pre := by
  simp [RepTable.isRepetition]

/-- **T7.1** (complete). Every non-root call of `negamax` on a position whose key is in the recorded history scores it
    as a draw — whatever the transposition table holds (the table is not even consulted), at whatever depth and window,
    also when the node is re-searched (the theorem is per call). -/
theorem repetition_complete (R : Rules) (cfg : Cfg) (fuel : Nat) (g : Game) (depth : Nat) (alpha beta : Int) (e : Env)
    (hply : 0 < e.ply) (hrep : g.key ∈ e.rep.pre) :
    (negamax R cfg (fuel + 1) g depth alpha beta e).1 = 0 ∧
    (negamax R cfg (fuel + 1) g depth alpha beta e).2.tt = e.tt ∧
    (negamax R cfg (fuel + 1) g depth alpha beta e).2.ttHits = e.ttHits := by
  obtain ⟨dg, n, lg, h⟩ := negamax_succ R cfg fuel g depth alpha beta e
  obtain ⟨_, _, _, h2⟩ := repReturn_eq cfg g { e with digest := dg, events := n, log := lg }
  rw [h, if_pos (by simp [hply, (isRepetition_iff e.rep g.key).mpr hrep]), h2]
  exact ⟨rfl, rfl, rfl⟩

/-- **T7.2** (sound). A call is answered through the repetition return only if it is not the root and the key of its
    own position is among the recorded history keys; otherwise the node goes on to the table probe and the search. -/
theorem repetition_sound (R : Rules) (cfg : Cfg) (fuel : Nat) (g : Game) (depth : Nat) (alpha beta : Int) (e : Env)
    (h : ¬ (0 < e.ply ∧ g.key ∈ e.rep.pre)) :
    negamax R cfg (fuel + 1) g depth alpha beta e =
      (let e1 := e.onNode cfg 1 g depth alpha beta
       if probeNode cfg g depth alpha beta e1 != Gen.UNKNOWN_SCORE then ttReturn cfg g (probeNode cfg g depth alpha beta e1) e1
       else afterProbe R cfg (negamax R cfg fuel) g depth alpha beta e1) := by
  simp only [negamax]
  rw [if_neg]
  rw [onNode_same]
  simpa only [Bool.and_eq_true, decide_eq_true_eq, isRepetition_iff] using h

/-- the history a child node is tested against is the history of its parent: the child's key is pushed and popped at
    once (the slot above the history keeps it; of the search only the `rep` hook event prints it, `Lemmas/RepExt`) -/
theorem child_history (r : RepTable) (k : UInt64) (h : (r.insert k).moveBack.overflow = false) :
    (r.insert k).moveBack.pre = r.pre ∧ (r.insert k).moveBack.index = r.index :=
  let ⟨a, b, _⟩ := (RepTable.insert_moveBack r k).2 h
  ⟨b, a⟩

/-- … and every call hands the history back as it got it (master invariant), so all nodes of the main search - including
    re-searches and nodes after a quiescence search - are tested against exactly the game history recorded by `position`
    (`Props/C05.position_history`: every position from the base position through the root). -/
theorem history_restored (R : Rules) (cfg : Cfg) (fuel : Nat) (g : Game) (depth : Nat) (alpha beta : Int) (e : Env)
    (ho : (negamax R cfg fuel g depth alpha beta e).2.rep.overflow = false) :
    (negamax R cfg fuel g depth alpha beta e).2.rep.pre = e.rep.pre :=
  ((negamax_frame R cfg fuel g depth alpha beta e).2 ho).repPre

end Jence.Props.C07
