/-
  C08 — the transposition table only returns sound information.

  Model: `Jence.TT` (`record` / `probe` / `clear` of `src/transposition_table.rs`), slot array = finite map.
  All statements hold for every table size (the engine's is `ttSize`), every key, depth, bound type, score, ply
  and window, and every sequence of operations.
-/
import Jence.Model.TT
import Jence.Lemmas.ListExtra
namespace Jence.Props.C08
open Jence

/-- a table operation (a probe does not change the table) -/
inductive Op
  | record (key : UInt64) (score : Int) (depth : Nat) (flag : Flag) (ply : Nat)
  | probe (key : UInt64) (depth : Nat) (alpha beta : Int) (ply : Nat)
  | clear

def step (t : TT) : Op → TT
  | .record k s d f p => t.record k s d f p
  | .probe .. => t
  | .clear => t.clear

def run (t : TT) (ops : List Op) : TT := ops.foldl step t

/-- score as stored: mate scores are made relative to the node (`record`) -/
def adjStore (s : Int) (p : Nat) : Int :=
  if s < -Gen.MATE_BOUND then s - p else if s > Gen.MATE_BOUND then s + p else s
/-- score as handed back: mate scores are made relative to the probing node's distance from the root (`probe`) -/
def adjProbe (e : Int) (q : Nat) : Int :=
  if e < -Gen.MATE_BOUND then e + q else if e > Gen.MATE_BOUND then e - q else e

/-- what a probe may answer given the entry found in its slot -/
def answer (e : Option Entry) (key : UInt64) (depth : Nat) (alpha beta : Int) (ply : Nat) : Int :=
  match e with
  | none => Gen.UNKNOWN_SCORE
  | some e =>
    if key == e.key && e.depth >= depth then
      match e.flag with
      | .exact => adjProbe e.score ply
      | .alpha => if adjProbe e.score ply <= alpha then alpha else Gen.UNKNOWN_SCORE
      | .beta => if adjProbe e.score ply >= beta then beta else Gen.UNKNOWN_SCORE
    else Gen.UNKNOWN_SCORE

theorem probe_eq_answer (t : TT) (key : UInt64) (d : Nat) (a b : Int) (q : Nat) :
    t.probe key d a b q = answer t.slots[t.slot key]? key d a b q := by
  unfold TT.probe answer adjProbe
  cases t.slots[t.slot key]? <;> rfl

/-- the abstract cache: slot ↦ last entry written since the last clear -/
def specStep (size : Nat) (f : Nat → Option Entry) : Op → Nat → Option Entry
  | .record k s d fl p => fun i => if k.toNat % size = i then some ⟨k, d, fl, adjStore s p⟩ else f i
  | .probe .. => f
  | .clear => fun _ => none

def specRun (size : Nat) (ops : List Op) : Nat → Option Entry :=
  ops.foldl (specStep size) (fun _ => none)

theorem step_size (t : TT) (op : Op) : (step t op).size = t.size := by
  cases op <;> simp [step, TT.record, TT.clear]

theorem run_size (t : TT) (ops : List Op) : (run t ops).size = t.size := by
  induction ops generalizing t with
  | nil => rfl
  | cons op ops ih => simp only [run, List.foldl_cons] at ih ⊢; rw [ih, step_size]

theorem slots_eq_spec (size : Nat) (ops : List Op) (i : Nat) :
    (run (TT.new size) ops).slots[i]? = specRun size ops i := by
  induction ops using List.snoc_induction with
  | nil => simp [run, specRun, TT.new]
  | snoc ops op ih =>
    have hs : (List.foldl step (TT.new size) ops).size = size := run_size (TT.new size) ops
    simp only [run, specRun, List.foldl_append, List.foldl_cons, List.foldl_nil] at ih ⊢
    cases op with
    | record k s d fl p =>
      simp only [step, specStep, TT.record, TT.slot]
      rw [Std.HashMap.getElem?_insert]
      rw [hs]
      by_cases h : k.toNat % size = i
      · simp [h, adjStore]
      · simp [h, ih]
    | probe => simpa [step, specStep] using ih
    | clear => simp [step, specStep, TT.clear]

/-- none of the operations `post` overwrites slot `i`: no `record` whose key lands on it, no `clear` -/
def Untouched (size : Nat) (i : Nat) (post : List Op) : Prop :=
  ∀ op ∈ post, match op with
    | .record k .. => k.toNat % size ≠ i
    | .probe .. => True
    | .clear => False

theorem Untouched.snoc {size i : Nat} {post : List Op} (h : Untouched size i post) (op : Op)
    (hop : Untouched size i [op]) : Untouched size i (post ++ [op]) := fun o ho =>
  (List.mem_append.mp ho).elim (h o) (hop o)

theorem spec_some (size : Nat) (ops : List Op) (i : Nat) (e : Entry) (h : specRun size ops i = some e) :
    ∃ pre post s p, ops = pre ++ [Op.record e.key s e.depth e.flag p] ++ post ∧
      e.key.toNat % size = i ∧ e.score = adjStore s p ∧ Untouched size i post := by
  induction ops using List.snoc_induction with
  | nil => simp [specRun] at h
  | snoc ops op ih =>
    simp only [specRun, List.foldl_append, List.foldl_cons, List.foldl_nil] at h ih
    -- an operation that leaves the slot alone joins the undisturbed tail
    have keep : List.foldl (specStep size) (fun _ => none) ops i = some e → Untouched size i [op] →
        ∃ pre post s p, ops ++ [op] = pre ++ [Op.record e.key s e.depth e.flag p] ++ post ∧
          e.key.toNat % size = i ∧ e.score = adjStore s p ∧ Untouched size i post := fun h hop => by
      obtain ⟨pre, post, s', p', rfl, h1, h2, h3⟩ := ih h
      exact ⟨pre, post ++ [op], s', p', by simp, h1, h2, h3.snoc op hop⟩
    cases op with
    | record k s d fl p =>
      simp only [specStep] at h
      by_cases hk : k.toNat % size = i
      · simp only [hk, ↓reduceIte, Option.some.injEq] at h
        subst h
        exact ⟨ops, [], s, p, by simp, hk, rfl, by intro op hop; simp at hop⟩
      · simp only [hk, ↓reduceIte] at h
        exact keep h fun o ho => by rw [List.mem_singleton.mp ho]; exact hk
    | probe k d a b q => exact keep h fun o ho => by rw [List.mem_singleton.mp ho]; trivial
    | clear => simp [specStep] at h

/-- **T8.1** A probe that answers anything (≠ `UNKNOWN_SCORE`) after *any* sequence of operations on a fresh table does
    so because of a `record` for exactly the probed key, with at least the requested depth, after which the table was
    neither cleared nor that slot overwritten; the answer is the stored value re-based to the probing ply (exact), or
    `alpha` only if that value does not exceed `alpha`, or `beta` only if it reaches `beta`. -/
theorem probe_sound (size : Nat) (ops : List Op) (key : UInt64) (d : Nat) (alpha beta : Int) (ply : Nat) (v : Int)
    (hv : (run (TT.new size) ops).probe key d alpha beta ply = v) (hne : v ≠ Gen.UNKNOWN_SCORE) :
    ∃ pre post s d' fl p, ops = pre ++ [Op.record key s d' fl p] ++ post ∧
      Untouched size (key.toNat % size) post ∧ d ≤ d' ∧
      (match fl with
       | .exact => v = adjProbe (adjStore s p) ply
       | .alpha => v = alpha ∧ adjProbe (adjStore s p) ply ≤ alpha
       | .beta => v = beta ∧ adjProbe (adjStore s p) ply ≥ beta) := by
  rw [probe_eq_answer] at hv
  have hsz : (run (TT.new size) ops).size = size := run_size (TT.new size) ops
  have hslot : (run (TT.new size) ops).slot key = key.toNat % size := by simp [TT.slot, hsz]
  rw [hslot, slots_eq_spec] at hv
  unfold answer at hv
  cases he : specRun size ops (key.toNat % size) with
  | none => rw [he] at hv; exact absurd hv.symm hne
  | some e =>
    rw [he] at hv
    by_cases hc : (key == e.key && e.depth >= d) = true
    · simp only [hc, ↓reduceIte] at hv
      simp only [Bool.and_eq_true, beq_iff_eq, ge_iff_le, decide_eq_true_eq] at hc
      obtain ⟨hk, hd⟩ := hc
      obtain ⟨pre, post, s, p, hops, _, hsc, hun⟩ := spec_some size ops _ e he
      refine ⟨pre, post, s, e.depth, e.flag, p, by rw [hk]; exact hops, hun, hd, ?_⟩
      rw [← hsc]
      cases hf : e.flag <;> simp only [hf] at hv ⊢
      · by_cases h' : adjProbe e.score ply ≤ alpha
        · simp only [h', ↓reduceIte] at hv; exact ⟨hv.symm, h'⟩
        · simp only [h', ↓reduceIte] at hv; exact absurd hv.symm hne
      · by_cases h' : adjProbe e.score ply ≥ beta
        · simp only [h', ↓reduceIte] at hv; exact ⟨hv.symm, h'⟩
        · simp only [h', ↓reduceIte] at hv; exact absurd hv.symm hne
      · exact hv.symm
    · simp only [hc, Bool.false_eq_true, ↓reduceIte] at hv
      exact absurd hv.symm hne

/-- A mate score stored at ply `p` and probed at ply `q` comes back shifted by `q - p` (for the mated side: towards
    zero as the root gets farther), any other score unchanged: the threshold tests at `record` (on the score) and at
    `probe` (on the stored value) classify it the same way, because adding the ply moves a mate score away from the
    threshold. -/
theorem rebase_law (s : Int) (p q : Nat) :
    adjProbe (adjStore s p) q =
      if s < -Gen.MATE_BOUND then s - p + q else if s > Gen.MATE_BOUND then s + p - q else s := by
  unfold adjStore
  by_cases h1 : s < -Gen.MATE_BOUND
  · simp only [h1, ↓reduceIte]
    unfold adjProbe; rw [if_pos (by omega)]
  · by_cases h2 : s > Gen.MATE_BOUND
    · simp only [h1, h2, ↓reduceIte]
      unfold adjProbe; rw [if_neg (by omega), if_pos (by omega)]
    · simp only [h1, h2, ↓reduceIte]
      unfold adjProbe; rw [if_neg h1, if_neg h2]

/-- every mate score the search can produce (a mate at most `MAX_PLY + 2` plies from the node) is beyond the threshold,
    so none is ever stored un-re-based (checked on the constants generated from the source) -/
theorem mate_scores_beyond_bound :
    Gen.MATE_VALUE - (Gen.MAX_PLY + 2 : Nat) > Gen.MATE_BOUND ∧ Gen.MATE_VALUE < Gen.INFINITY ∧
    -Gen.INFINITY > Gen.UNKNOWN_SCORE := by decide

/-- **T8.3** A result just stored is retrievable: for any requested depth `d ≤ d'` the probe returns the stored value
    re-based to the probing ply (exact), or the bound when the window admits it. -/
theorem store_then_probe (t : TT) (key : UInt64) (s : Int) (d' : Nat) (fl : Flag) (p : Nat)
    (d : Nat) (alpha beta : Int) (q : Nat) (hd : d ≤ d') :
    (t.record key s d' fl p).probe key d alpha beta q =
      match fl with
      | .exact => adjProbe (adjStore s p) q
      | .alpha => if adjProbe (adjStore s p) q ≤ alpha then alpha else Gen.UNKNOWN_SCORE
      | .beta => if adjProbe (adjStore s p) q ≥ beta then beta else Gen.UNKNOWN_SCORE := by
  rw [probe_eq_answer]
  have : (t.record key s d' fl p).slots[(t.record key s d' fl p).slot key]? = some ⟨key, d', fl, adjStore s p⟩ := by
    simp [TT.record, TT.slot, adjStore]
  rw [this]
  unfold answer
  have hd' : decide (d' ≥ d) = true := by simpa using hd
  simp only [beq_self_eq_true, hd', Bool.and_self, ↓reduceIte]

/-- **T8.4** After a clear nothing is retrievable. -/
theorem clear_then_probe (t : TT) (key : UInt64) (d : Nat) (alpha beta : Int) (q : Nat) :
    t.clear.probe key d alpha beta q = Gen.UNKNOWN_SCORE := by
  rw [probe_eq_answer]; simp [TT.clear, answer]

theorem new_then_probe (size : Nat) (key : UInt64) (d : Nat) (alpha beta : Int) (q : Nat) :
    (TT.new size).probe key d alpha beta q = Gen.UNKNOWN_SCORE := by
  rw [probe_eq_answer]; simp [TT.new, answer]

/-! Non-vacuity: a concrete sequence with a slot collision, a clear and a mate score; the hypotheses of T8.1 are met. -/
example : adjProbe (adjStore 48990 3) 7 = 48986 := by decide
example : adjProbe (adjStore (-48990) 3) 7 = -48986 := by decide
example : Untouched 8 1 [Op.record 10 5 5 .exact 0, Op.probe 9 0 0 0 0] := by
  intro op hop; simp at hop; rcases hop with rfl | rfl <;> simp

end Jence.Props.C08
