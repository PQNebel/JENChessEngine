/-
  C09 — an interrupted search uses nothing computed after the stop.

  Model: `Env.poll`, `negamax`, `quiescence`, the move loops, `idLoop` (`src/search.rs`), for every rules instance,
  every poll predicate (`cfg.subMask`) and every schedule of what the outside world presents at each poll.
-/
import Jence.Lemmas.Frame
import Jence.Lemmas.Cadence
namespace Jence.Props.C09
open Jence

/-- what must not change once the search has been told to stop -/
def Frozen (e e' : Env) : Prop :=
  e'.stopping = true ∧ e'.tt = e.tt ∧ e'.pv = e.pv ∧ e'.killers = e.killers ∧ e'.history = e.history ∧ e'.out = e.out

/-- **T9.2a** Whatever part of the main search runs after the stop was seen — any node, at any depth, with any window —
    leaves the transposition table, the whole PV table, the killer and history tables and the printed output exactly as
    they were, and the stop flag stays up. (This is the "four abort checks" argument, done once in the traversal of
    `Lemmas/Steps`: the writing steps ask for `stopping = false`, and removing any one of the checks from the model makes
    `moveLoop_steps` / `nullMoveStep_steps` unable to supply it.) The general fact is `Lemmas/Frame.negamax_still`. -/
theorem negamax_after_stop (R : Rules) (cfg : Cfg) (fuel : Nat) (g : Game) (depth : Nat) (alpha beta : Int) (e : Env)
    (hs : e.stopping = true) (ho : (negamax R cfg fuel g depth alpha beta e).2.rep.overflow = false) :
    Frozen e (negamax R cfg fuel g depth alpha beta e).2 :=
  (negamax_still R cfg fuel g depth alpha beta e).afterStop hs

theorem quiescence_after_stop (R : Rules) (cfg : Cfg) (fuel : Nat) (g : Game) (alpha beta : Int) (e : Env)
    (hs : e.stopping = true) (ho : (quiescence R cfg fuel g alpha beta e).2.rep.overflow = false) :
    Frozen e (quiescence R cfg fuel g alpha beta e).2 :=
  (quiescence_still R cfg fuel g alpha beta e).afterStop hs

/-- **T9.2b** The rest of the very frame in which the poll fired leaves table, PV, killers, history scores and output as
    they were, like the frames after it (T9.2a): everything a node does after its poll (null move, move generation and
    ordering, the move loop, the table record) is `expand`. -/
theorem rest_of_polling_frame_after_stop (R : Rules) (cfg : Cfg) (fuel : Nat) (g : Game) (depth : Nat) (alpha beta : Int) (e : Env)
    (hs : e.stopping = true) (ho : (expand R cfg (negamax R cfg fuel) g depth alpha beta e).2.rep.overflow = false) :
    Frozen e (expand R cfg (negamax R cfg fuel) g depth alpha beta e).2 :=
  (expand_steps (still_steps False) False.elim R cfg _ (negamax_still R cfg fuel) g depth alpha beta e
    False.elim fun h => absurd hs (by rw [h]; decide)).afterStop hs

/-- **T9.2c** Once stopping, polling does nothing at all: no further input line is read (so nothing sent after `stop`
    can be swallowed) and no further poll is counted. -/
theorem poll_after_stop (cfg : Cfg) (e : Env) (hs : e.stopping = true) : e.poll cfg = e := poll_stopped cfg e hs

/-- **T9.2d** A stopped iteration ends the search: the loop prints no further `info` line and starts no further
    iteration, so the answer is the PV head as the completed part of the search left it. -/
theorem idLoop_after_stop (R : Rules) (cfg : Cfg) (g : Game) (count cur : Nat) (alpha beta score : Int) (e : Env)
    (hs : (negamax R cfg negaFuel g cur alpha beta { e with followPv := true }).2.stopping = true) :
    (idLoop R cfg g (count + 1) cur alpha beta score e).2.2 = (negamax R cfg negaFuel g cur alpha beta { e with followPv := true }).2 := by
  simp only [idLoop]
  rw [if_pos hs]

/-- a stop (or an expired deadline) presented at a poll is honoured at that very poll -/
theorem poll_sees_stop (cfg : Cfg) (e : Env) (hrun : e.stopping = false)
    (h : (cfg.maxTime ≠ -1 ∧ (cfg.maxTime = 0 ∨ (cfg.world e.polls).deadline = true)) ∨
         (cfg.maxTime = -1 ∧ ∃ l rest, e.chan ++ (cfg.world e.polls).lines = l :: rest ∧ Env.classifyLine l.trimAscii.toString = Env.LineKind.stop)) :
    (e.poll cfg).stopping = true := by
  obtain ⟨d, n, lg, hp⟩ := poll_running cfg e hrun
  rw [hp]
  rcases h with ⟨h1, h2⟩ | ⟨h1, l, rest, h2, h3⟩
  · rw [if_pos (by simpa using ⟨h1, h2⟩)]
  · rw [if_neg (by simp [h1]), h2]
    dsimp only
    rw [h3]; rfl

/-- the poll interval is a bit mask of at most 16 bits: polls fall on multiples of `INPUT_POLL_INTERVAL + 1`, at most a
    few tens of thousands of nodes apart (re-checked when the constant is re-tuned) -/
theorem poll_interval_ok :
    Gen.INPUT_POLL_INTERVAL &&& (Gen.INPUT_POLL_INTERVAL + 1) = 0 ∧ Gen.INPUT_POLL_INTERVAL + 1 ≤ 65536 ∧ 0 < Gen.INPUT_POLL_INTERVAL := by
  decide

/-- the first poll of a search happens before the first node is counted -/
theorem first_poll_at_node_zero (cfg : Cfg) (tt : TT) (rep : RepTable) :
    ((Env.fresh tt rep).maybePoll cfg) = (Env.fresh tt rep).poll cfg := by
  unfold Env.maybePoll
  simp [Env.fresh]

/-- the poll test `nodes & INPUT_POLL_INTERVAL == 0` is "the counter is a multiple of `INPUT_POLL_INTERVAL + 1`"
    (re-checked when the constant is re-tuned: it must be one less than a power of two) -/
theorem poll_test_is_multiple (n : Nat) : n &&& Gen.INPUT_POLL_INTERVAL = n % (Gen.INPUT_POLL_INTERVAL + 1) := by
  have h : Gen.INPUT_POLL_INTERVAL = 2 ^ (Nat.log2 (Gen.INPUT_POLL_INTERVAL + 1)) - 1 := by decide
  have h2 : Gen.INPUT_POLL_INTERVAL + 1 = 2 ^ (Nat.log2 (Gen.INPUT_POLL_INTERVAL + 1)) := by decide
  rw [h2]
  conv => lhs; rw [h]
  exact Nat.and_two_pow_sub_one_eq_mod _ _

/-- **T9.1** The search looks for a stop request at least once every `INPUT_POLL_INTERVAL + 1` nodes: at the end of every
    `search` that was not stopped - every rules instance, position, depth, table, history, poll predicate and input
    schedule - every window of `INPUT_POLL_INTERVAL + 1` consecutive values of the node counter below the final count
    contains a value at which input was polled (`pollLog` records the counter at each poll). The induction
    (`Lemmas/Cadence`) rests on `maybe_poll` being called with the counter's current value right before every increment,
    in `negamax` as in `quiescence`; nodes that return early (repetition, table hit, ply cap) neither poll nor count. -/
theorem polled_in_every_window (R : Rules) (cfg : Cfg) (g : Game) (depth : Int) (tt : TT) (rep : RepTable)
    (hrun : (search R cfg g depth tt rep).2.stopping = false) (a : Nat)
    (ha : a + (Gen.INPUT_POLL_INTERVAL + 1) ≤ (search R cfg g depth tt rep).2.nodes) :
    ∃ n ∈ (search R cfg g depth tt rep).2.pollLog, a ≤ n ∧ n < a + (Gen.INPUT_POLL_INTERVAL + 1) := by
  have hc := search_cad R cfg g depth tt rep hrun
  generalize hW : Gen.INPUT_POLL_INTERVAL + 1 = W at ha ⊢
  have hWpos : 0 < W := by rw [← hW]; omega
  -- the multiple of W inside the window
  have hdiv := Nat.div_add_mod (a + (W - 1)) W
  have hmod := Nat.mod_lt (a + (W - 1)) hWpos
  have hm : W * ((a + (W - 1)) / W) = (a + (W - 1)) / W * W := Nat.mul_comm _ _
  refine ⟨(a + (W - 1)) / W * W, hc _ (by omega) ?_, by omega, by omega⟩
  rw [poll_test_is_multiple, hW]
  exact Nat.mul_mod_left _ _

/-- the invariant behind it, for a search that is still running at any node of the main search -/
theorem cadence_invariant (R : Rules) (cfg : Cfg) (fuel : Nat) (g : Game) (depth : Nat) (alpha beta : Int) (e : Env) (h : Cad e) :
    Cad (negamax R cfg fuel g depth alpha beta e).2 := negamax_cad R cfg fuel g depth alpha beta e h

end Jence.Props.C09
