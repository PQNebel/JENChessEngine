/-
  C10 — the engine's self-imposed time budget always fits the clock.

  Model: `Jence.decideTime` (the "Decide time" block of `parse_go`, `src/main.rs`) on `Int`; the argument
  scan `goScan`/`parseGo` is tied to the code by the `budget` correspondence (dense clock grid).
-/
import Jence.Model.Budget
namespace Jence.Props.C10
open Jence

/-- A `go` line carried a clock for the mover (remaining ≥ 1 ms, increment ≥ 0, moves-to-go ≥ 1 — 30 when absent)
    and no `movetime`. -/
structure ClockGiven (a : GoArgs) : Prop where
  time : 1 ≤ a.time
  inc : 0 ≤ a.inc
  mtg : 1 ≤ a.movesToGo
  noMoveTime : a.moveTime = -1

private theorem rustDiv_some (t m : Int) (ht : 1 ≤ t) (hm : 1 ≤ m) : rustDiv t m = some (Int.tdiv t m) := by
  unfold rustDiv
  have h1 : (m == 0) = false := by simp; omega
  have h2 : (t == i64lo) = false := by simp [i64lo]; omega
  simp [h1, h2]

/-- the clamp of commit `fd4f76d` -/
theorem clamp_fits (t r : Int) (hr : 1 ≤ r) : 0 ≤ max (min t (r - 1)) 0 ∧ max (min t (r - 1)) 0 < r := by omega

/-- **T10.1** For every clock state the budget is finite, non-negative and strictly below the remaining time. -/
theorem budget_fits (a : GoArgs) (h : ClockGiven a) :
    ∃ b, decideTime a = some b ∧ 0 ≤ b ∧ b < a.time := by
  obtain ⟨ht, _, hm, hmt⟩ := h
  have hd := rustDiv_some a.time a.movesToGo ht hm
  unfold decideTime
  rw [if_neg (by simp [hmt]), if_pos (by simp; omega)]
  -- each formula yields a number (the divisions are defined); the clamp does the rest
  have hsome : ∃ t, (if a.time > 2000 then (rustDiv a.time a.movesToGo).map fun q => q + a.inc - 100
      else if a.inc != 0 then some (a.inc - 500) else rustDiv a.time a.movesToGo) = some t := by
    rw [hd]
    split
    · exact ⟨_, rfl⟩
    · split <;> exact ⟨_, rfl⟩
  obtain ⟨t, h⟩ := hsome
  simp only [h, Option.map_some]
  exact ⟨_, rfl, clamp_fits t a.time ht⟩

/-- **T10.2** With `movetime T` the budget is exactly `T` (whatever else the line carries). -/
theorem movetime_exact (a : GoArgs) (h : a.moveTime ≠ -1) : decideTime a = some a.moveTime := by
  unfold decideTime
  have : (a.moveTime != -1) = true := by simpa using h
  simp [this]

/-- **T10.3** The budget is the "no limit" value −1 only when the line carried neither `movetime` nor the mover's clock
    (`go infinite`, `go depth d`, bare `go`): with a clock or a (non-negative) movetime it never is. -/
theorem unlimited_only_without_clock (a : GoArgs) :
    (a.moveTime = -1 ∧ a.time = -1 → decideTime a = some (-1)) ∧
    (ClockGiven a → decideTime a ≠ some (-1)) ∧
    (0 ≤ a.moveTime → decideTime a ≠ some (-1)) := by
  refine ⟨?_, ?_, ?_⟩
  · rintro ⟨h1, h2⟩; unfold decideTime; simp [h1, h2]
  · intro h hc
    obtain ⟨b, hb, h0, _⟩ := budget_fits a h
    rw [hb] at hc; injection hc with hc; omega
  · intro h hc
    rw [movetime_exact a (by omega)] at hc; injection hc with hc; omega

/-- What `parse_go` hands to `search` is the decided time of the scanned arguments. -/
theorem parseGo_search (white : Bool) (args : String) (msgs : List String) (d t : Int)
    (h : parseGo white args = (msgs, .search d t)) :
    ∃ a, goScan white ((args.splitOn " ").length + 1) (args.splitOn " ") {} [] = .ok (msgs, a) ∧
         decideTime a = some t ∧ a.depth = d := by
  unfold parseGo at h
  simp only at h
  split at h
  · rename_i r hr
    rcases r with ⟨m, st⟩
    cases st <;> simp [ScanStop.toResult] at h
  · rename_i m a hs
    split at h
    · simp at h
    · rename_i t' ht
      obtain ⟨rfl, rfl, rfl⟩ := h
      exact ⟨a, hs, ht, rfl⟩

/-! Non-vacuity: concrete clock states meeting the hypotheses, and their budgets. -/
example : ClockGiven { time := 2500 } := ⟨by decide, by decide, by decide, by decide⟩
example : decideTime { time := 2500 } = some 0 := by decide
example : decideTime { time := 300000, inc := 2000, movesToGo := 40 } = some 9400 := by decide
example : decideTime { time := 5000, inc := 10000 } = some 4999 := by decide
example : decideTime { moveTime := 77, time := 5 } = some 77 := by decide

/-- **T10.0** The decision as it stood before commit `fd4f76d` violated the property (these inputs were replayed on
    the pre-fix binary, `replays/prefix/D4_*`): negative budgets, the "no limit" value, and budgets above the clock. -/
theorem legacy_counterexamples :
    decideTimeLegacy { time := 2500 } = some (-17) ∧
    decideTimeLegacy { time := 2980 } = some (-1) ∧
    decideTimeLegacy { time := 1500, inc := 100 } = some (-400) ∧
    decideTimeLegacy { time := 5000, inc := 10000 } = some 10066 ∧
    decideTimeLegacy { time := 60000, inc := 100, movesToGo := 1 } = some 60000 := by decide

end Jence.Props.C10
