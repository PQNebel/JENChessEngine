/-
  C11 — mate announcements are truthful in sign and distance: the conversion of a score to `mate N` (T11.1), and, for the
  plain minimax value and the shallow iterations, that a mate score is a forced mate within the announced distance
  (T11.2a/b) and that a mate in one is announced (T11.3a/b).

  Model: `Jence.scoreField`, the score-to-`mate N` conversion in `search` (`src/search.rs`).
  A root score `MATE_VALUE − p` means "the opponent is checkmated `p` plies from now" (p odd: the mover delivers the
  mate with its ((p+1)/2)-th move); `−MATE_VALUE + p` means "the mover is checkmated `p` plies from now" (p even: after
  p/2 of its own moves). That a mate score really is such a distance is an invariant of the search (terminal nodes score
  `−MATE_VALUE + ply`, every level negates): T11.2/T11.3 prove it for `nVal` and the iterations of depth at most 2.
-/
import Jence.Lemmas.ForcedMate
namespace Jence.Props.C11
open Jence

/-- the distances `p` a mate score can carry: `MATE_VALUE − p` still lies beyond `MATE_BOUND` -/
def inMateRange (p : Int) : Prop := 0 ≤ p ∧ p < Gen.MATE_VALUE - Gen.MATE_BOUND

/-- the only facts about the tuning constants the conversion needs (re-checked whenever they are re-tuned) -/
theorem consts_ok : 0 ≤ Gen.MATE_BOUND ∧ Gen.MATE_BOUND < Gen.MATE_VALUE := mate_consts

/-- the engine divides with truncation; on both ranges the dividend is not negative, so floor division says the same -/
theorem scoreField_spec (s : Int) : scoreField s =
    if -Gen.MATE_VALUE ≤ s ∧ s < -Gen.MATE_BOUND then .mate (-((s + Gen.MATE_VALUE) / 2))
    else if Gen.MATE_BOUND < s ∧ s ≤ Gen.MATE_VALUE then .mate ((Gen.MATE_VALUE - s) / 2 + 1) else .cp s := by
  unfold scoreField
  by_cases c1 : -Gen.MATE_VALUE ≤ s ∧ s < -Gen.MATE_BOUND
  · rw [if_pos (by simp [c1]), if_pos c1, Int.neg_tdiv, Int.tdiv_eq_ediv_of_nonneg (by omega)]
  · rw [if_neg (by simpa using c1), if_neg c1]
    by_cases c2 : Gen.MATE_BOUND < s ∧ s ≤ Gen.MATE_VALUE
    · rw [if_pos (by simp [c2]), if_pos c2, Int.tdiv_eq_ediv_of_nonneg (by omega)]
    · rw [if_neg (by simp; omega), if_neg c2]

theorem scoreField_eq_mate {s N : Int} (h : scoreField s = .mate N) :
    (-Gen.MATE_VALUE ≤ s ∧ s < -Gen.MATE_BOUND ∧ N = -((s + Gen.MATE_VALUE) / 2)) ∨
    (Gen.MATE_BOUND < s ∧ s ≤ Gen.MATE_VALUE ∧ N = (Gen.MATE_VALUE - s) / 2 + 1) := by
  rw [scoreField_spec] at h
  split at h
  · rename_i c; injection h with h; exact Or.inl ⟨c.1, c.2, h.symm⟩
  split at h
  · rename_i c; injection h with h; exact Or.inr ⟨c.1, c.2, h.symm⟩
  · cases h

theorem scoreField_neg {s : Int} (h1 : -Gen.MATE_VALUE ≤ s) (h2 : s < -Gen.MATE_BOUND) :
    scoreField s = .mate (-((s + Gen.MATE_VALUE) / 2)) := by
  rw [scoreField_spec, if_pos ⟨h1, h2⟩]

theorem scoreField_pos {s : Int} (h1 : Gen.MATE_BOUND < s) (h2 : s ≤ Gen.MATE_VALUE) :
    scoreField s = .mate ((Gen.MATE_VALUE - s) / 2 + 1) := by
  have := consts_ok
  rw [scoreField_spec, if_neg (by omega), if_pos ⟨h1, h2⟩]

/-- **T11.1a** The mover mates: a score `MATE_VALUE − p` with `p` odd is announced as `mate (p+1)/2`
    (`p = 1`: mate in one, a PV of `2N − 1 = p` plies). -/
theorem mate_for_mover (p : Int) (hr : inMateRange p) (hodd : p % 2 = 1) :
    scoreField (Gen.MATE_VALUE - p) = .mate ((p + 1) / 2) := by
  obtain ⟨h0, h1⟩ := hr
  rw [scoreField_pos (by omega) (by omega)]
  congr 1; omega

/-- **T11.1b** The mover is mated: a score `−MATE_VALUE + p` with `p` even and positive is announced as `mate −p/2`
    (`p = 2`: every move allows mate next move, `mate −1`, a PV of `2|N| = p` plies). -/
theorem mate_against_mover (p : Int) (hr : inMateRange p) (hpos : 0 < p) (heven : p % 2 = 0) :
    scoreField (-Gen.MATE_VALUE + p) = .mate (-(p / 2)) := by
  obtain ⟨h0, h1⟩ := hr
  rw [scoreField_neg (by omega) (by omega)]
  congr 1; omega

/-- **T11.1c** Scores outside the two mate ranges are printed as centipawns, unchanged. -/
theorem cp_outside_mate_range (s : Int) (h : -Gen.MATE_BOUND ≤ s ∧ s ≤ Gen.MATE_BOUND) : scoreField s = .cp s := by
  rw [scoreField_spec, if_neg (by omega), if_neg (by omega)]

theorem mate_sign (p : Int) (hr : inMateRange p) (hp : 2 ≤ p) :
    (∃ n, scoreField (Gen.MATE_VALUE - p) = .mate n ∧ 0 < n) ∧ (∃ n, scoreField (-Gen.MATE_VALUE + p) = .mate n ∧ n < 0) := by
  obtain ⟨h0, h1⟩ := hr
  exact ⟨⟨_, scoreField_pos (by omega) (by omega), by omega⟩, ⟨_, scoreField_neg (by omega) (by omega), by omega⟩⟩

/-! `MatesIn R n g` / `MatedIn R n g`: the side to move at `g` can force checkmate within `n` plies / is checkmated within
  `n` plies whatever it plays - over the moves the rules instance generates and `make` accepts, with no reference to
  scores. `EvalInv R P`: on a set `P` of positions closed under the moves, the static evaluation stays strictly inside
  `(−MATE_BOUND, MATE_BOUND)` (for chess that is T16.4 `eval_bounded` on positions with one king and at most fifteen other
  men a side). -/

/-- a bound on the side the search reports is enough -/
theorem forced_of_lower_bound (R : Rules) (P : Game → Prop) (hI : EvalInv R P) (H : List UInt64) (fuel : Nat)
    (g : Game) (depth : Nat) (hP : P g) (s : Int) (hle : s ≤ nVal R H fuel g depth 0) (N : Int) (hN : 0 < N)
    (hs : scoreField s = .mate N) : MatesIn R (2 * N.toNat - 1) g := by
  rcases scoreField_eq_mate hs with ⟨_, _, e⟩ | ⟨h1, _, e⟩
  · omega
  · obtain ⟨n, hn, hd⟩ := (nVal_mate R P hI H fuel g depth 0 hP).1 (by omega)
    exact hd.mono R (by omega)

theorem forced_of_upper_bound (R : Rules) (P : Game → Prop) (hI : EvalInv R P) (H : List UInt64) (fuel : Nat)
    (g : Game) (depth : Nat) (hP : P g) (s : Int) (hle : nVal R H fuel g depth 0 ≤ s) (N : Int) (hN : N < 0)
    (hs : scoreField s = .mate N) : MatedIn R (2 * (-N).toNat) g := by
  rcases scoreField_eq_mate hs with ⟨_, h1, e⟩ | ⟨_, _, e⟩
  · obtain ⟨n, hn, hd⟩ := (nVal_mate R P hI H fuel g depth 0 hP).2 (by omega)
    exact (hd.even R).mono R (by omega)
  · omega

/-- **T11.2a** Every depth, fuel, game history and rules instance: when the plain minimax value of the root (`nVal`,
    T19.2: check extension, quiescence at the horizon, mate by distance, stalemate and history positions 0) is announced
    as `mate N`, then for `N > 0` the side to move can force checkmate within `2N − 1` plies (its `N`-th move mates at
    the latest) and for `N < 0` it is checkmated within `2|N|` plies whatever it plays (`N = −1`: every move it has
    allows mate next move). -/
theorem announced_value_is_forced_mate (R : Rules) (P : Game → Prop) (hI : EvalInv R P) (H : List UInt64) (fuel : Nat)
    (g : Game) (depth : Nat) (hP : P g) (N : Int) (hs : scoreField (nVal R H fuel g depth 0) = .mate N) :
    (0 < N → MatesIn R (2 * N.toNat - 1) g) ∧ (N < 0 → MatedIn R (2 * (-N).toNat) g) :=
  ⟨fun hN => forced_of_lower_bound R P hI H fuel g depth hP _ (Int.le_refl _) N hN hs,
   fun hN => forced_of_upper_bound R P hI H fuel g depth hP _ (Int.le_refl _) N hN hs⟩

/-- **T11.2b (partial: nominal depths 1 and 2, table bypassed)** Every iteration of depth at most 2 that the deepening
    loop runs, in a run that was neither stopped nor overflowed: when its score is printed as `mate N` with `N > 0` and
    is not a fail-low (`score > alpha`), the side to move can force checkmate within `2N − 1` plies; when `N < 0` and it
    is not a fail-high (`score < beta`), the side to move is checkmated within `2|N|` plies. Missing for the full T11.2:
    iterations of depth >= 3 (null move, reductions, table cut-offs), validated against the rules' exhaustive mate search
    instead. -/
theorem shallow_mate_announcement_is_forced_partial (R : Rules) (cfg : Cfg) (hbyp : cfg.ttBypass = true) (g : Game)
    (H : List UInt64) (count cur : Nat) (alpha beta score : Int) (e : Env) (hab : alpha < beta) (hp : e.ply = 0)
    (hH : e.rep.pre = H) (hclean : Clean (idLoop R cfg g count cur alpha beta score e).2.2)
    (P : Game → Prop) (hI : EvalInv R P) (hP : P g) :
    ∀ it ∈ idTrace R cfg g count cur alpha beta e, it.depth ≤ 2 → ∀ N, scoreField it.score = .mate N →
      (0 < N → it.alpha < it.score → MatesIn R (2 * N.toNat - 1) g) ∧
      (N < 0 → it.score < it.beta → MatedIn R (2 * (-N).toNat) g) := by
  intro it hit hd N hs
  obtain ⟨_, hsound⟩ := idLoop_value R cfg hbyp g H count cur alpha beta score e hab hp hH hclean it hit hd
  exact ⟨fun hN hlo => forced_of_lower_bound R P hI H negaFuel g it.depth hP it.score (Sound.lower hsound hlo) N hN hs,
    fun hN hhi => forced_of_upper_bound R P hI H negaFuel g it.depth hP it.score (Sound.upper hsound hhi) N hN hs⟩

/-! Non-vacuity: a toy rules instance in which the mover mates in one (one move, after which the opponent is in check
    without a move). -/
def toyMate : Rules where
  generate := fun g b => if b && g.halfMoves == 0 then [Move.null] else []
  make := fun g _ => if g.halfMoves == 0 then some { g with halfMoves := 1 } else none
  inCheck := fun g => g.halfMoves == 1
  evaluate := fun _ => 7
  nullMove := id
  firstLegal := fun _ => none
theorem toyMate_inv : EvalInv toyMate (fun _ => True) := ⟨fun _ _ _ _ _ => trivial, fun _ _ => by show -Gen.MATE_BOUND < (7 : Int) ∧ (7 : Int) < Gen.MATE_BOUND; decide⟩
example : scoreField (nVal toyMate [] 3 default 2 0) = .mate 1 := by decide +kernel
example : MatesIn toyMate 1 default :=
  (announced_value_is_forced_mate toyMate _ toyMate_inv [] 3 default 2 trivial 1 (by decide +kernel)).1 (by decide)

/-- **T11.3a** When the side to move has a generated move that `make` accepts and that leaves the opponent checkmated
    (in check, no move can be made), the plain minimax value of the root at every nominal depth from 2 on is
    `MATE_VALUE − 1`, which is announced as `mate 1` - for every rules instance with a bounded evaluation (`EvalInv`),
    game history, and fuel, provided neither the root nor the mated position is at half-move clock 100 (where the engine
    hands over to the capture search) and the mated position is not one of the game history (it would score as a draw
    first). At nominal depth 1 the mated position is at the horizon, where the engine's capture search does not look for
    mate - which is why the property starts at a higher depth. -/
theorem mate_in_one_value_is_announced (R : Rules) (P : Game → Prop) (hI : EvalInv R P) (H : List UInt64) (fuel : Nat)
    (g : Game) (depth : Nat) (hP : P g) (hd : 2 ≤ depth) (hhm : (g.halfMoves == 100) = false)
    (m : Move) (hm : m ∈ R.generate g true) (c : Game) (hmk : R.make g m = some c) (hmated : Mated R c)
    (hcH : H.contains c.key = false) (hchm : (c.halfMoves == 100) = false) :
    scoreField (nVal R H (fuel + 2) g depth 0) = .mate 1 := by
  rw [nVal_mate_in_one R P hI H fuel g depth hP hd hhm m hm c hmk hmated hcH hchm]
  decide

/-- **T11.3b (partial: the depth-2 iteration, table bypassed)** In a run that was neither stopped nor overflowed, the
    iteration of nominal depth 2 announces `mate 1` whenever its score lies inside its aspiration window and the side to
    move has a mating move. Missing for the full T11.3: the iterations of depth >= 3 (validated by the mate oracle). -/
theorem mate_in_one_found_at_depth_two_partial (R : Rules) (cfg : Cfg) (hbyp : cfg.ttBypass = true) (g : Game)
    (H : List UInt64) (count cur : Nat) (alpha beta score : Int) (e : Env) (hab : alpha < beta) (hp : e.ply = 0)
    (hH : e.rep.pre = H) (hclean : Clean (idLoop R cfg g count cur alpha beta score e).2.2)
    (P : Game → Prop) (hI : EvalInv R P) (hP : P g) (hhm : (g.halfMoves == 100) = false)
    (m : Move) (hm : m ∈ R.generate g true) (c : Game) (hmk : R.make g m = some c) (hmated : Mated R c)
    (hcH : H.contains c.key = false) (hchm : (c.halfMoves == 100) = false) :
    ∀ it ∈ idTrace R cfg g count cur alpha beta e, it.depth = 2 → it.alpha < it.score → it.score < it.beta →
      scoreField it.score = .mate 1 := by
  intro it hit hd hlo hhi
  obtain ⟨_, _, _, s3⟩ := idLoop_value R cfg hbyp g H count cur alpha beta score e hab hp hH hclean it hit (by omega)
  have hv := s3 hlo hhi
  rw [hd] at hv
  rw [← hv]
  exact mate_in_one_value_is_announced R P hI H (negaFuel - 2) g 2 hP (by omega) hhm m hm c hmk hmated hcH hchm

/-- non-vacuity: the toy instance above meets every hypothesis of T11.3a -/
example : scoreField (nVal toyMate [] (1 + 2) default 2 0) = .mate 1 :=
  mate_in_one_value_is_announced toyMate _ toyMate_inv [] 1 default 2 trivial (by decide) (by decide) Move.null
    (by decide) { (default : Game) with halfMoves := 1 } rfl ⟨by decide, by decide⟩ (by decide) (by decide)

theorem mate_one_means (R : Rules) (g : Game) :
    MatesIn R 1 g ↔ ∃ m ∈ R.generate g true, ∃ c, R.make g m = some c ∧ Mated R c := by
  simp only [MatesIn, MatedIn]

/-- the property's "N = −1: every legal move allows mate next move" -/
theorem mated_one_means (R : Rules) (g : Game) :
    MatedIn R 2 g ↔ Mated R g ∨
      ((∃ m ∈ R.generate g true, ∃ c, R.make g m = some c) ∧
       ∀ m ∈ R.generate g true, ∀ c, R.make g m = some c →
         ∃ m' ∈ R.generate c true, ∃ c', R.make c m' = some c' ∧ Mated R c') := by
  simp only [MatesIn, MatedIn]

/-- the rule the check applies to every info line: no `mate 0` where the position has a legal move -/
theorem mate_zero_means_mated (R : Rules) (P : Game → Prop) (hI : EvalInv R P) (H : List UInt64) (fuel : Nat)
    (g : Game) (depth : Nat) (hP : P g) (hs : scoreField (nVal R H fuel g depth 0) = .mate 0) : Mated R g := by
  rcases scoreField_eq_mate hs with ⟨_, h1, e⟩ | ⟨_, _, e⟩
  · obtain ⟨n, hn, hd⟩ := (nVal_mate R P hI H fuel g depth 0 hP).2 h1
    have := hd.even R
    rwa [show n / 2 = 0 by omega] at this
  · omega

/-! Non-vacuity and the concrete cases the property names. -/
example : inMateRange 1 ∧ (1 : Int) % 2 = 1 := by unfold inMateRange; decide
example : scoreField (Gen.MATE_VALUE - 1) = .mate 1 := by decide          -- mate in one
example : scoreField (-Gen.MATE_VALUE + 2) = .mate (-1) := by decide       -- mated in one
example : scoreField (Gen.MATE_VALUE - 3) = .mate 2 := by decide
example : scoreField (-Gen.MATE_VALUE + 4) = .mate (-2) := by decide

/-- **T11.0** Before commit `31eef30` a position that is mated in one (score `−MATE_VALUE + 2`, e.g.
    `k7/8/1K6/8/8/8/8/7R b`, replay `replays/prefix/D5_mated_in_one.out`) was announced as `mate −2`. -/
theorem legacy_counterexample : scoreFieldLegacy (-Gen.MATE_VALUE + 2) = .mate (-2) := by decide

end Jence.Props.C11
