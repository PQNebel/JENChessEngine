/-
  C11, the chess instance against the rules specification: the leaves and the moves of the forced-mate predicates
  `MatesIn chessRules` / `MatedIn chessRules` are the rules' checkmates and the rules' legal moves whenever the position
  is consistent.
-/
import Jence.Lemmas.ForcedMate
import Jence.Lemmas.LegalMoves
namespace Jence.Props.C11
open Jence

/-- **T11.2c** In a consistent position (the hypotheses of the refinement chain, T1.3) "checkmated" as the forced-mate
    predicates read it from the engine - in check, and no generated move survives `make` - is checkmate by the rules
    specification: no legal move and the side to move in check; and conversely. -/
theorem mated_is_rules_checkmate (g : Game) (b : Board) (wf : Wf g b) (nk : NoKingCapture g) :
    Mated chessRules g ↔
      (Spec.legalMoves (Spec.abs g) = [] ∧ Spec.inCheck (Spec.abs g) (Spec.abs g).white = true) := by
  have hc : chessRules.inCheck g = Spec.inCheck (Spec.abs g) (Spec.abs g).white := inCheck_refines wf g.white
  constructor
  · rintro ⟨h1, hall⟩
    exact ⟨no_made_no_legal wf nk hall, hc ▸ h1⟩
  · rintro ⟨hnil, h1⟩
    refine ⟨hc ▸ h1, fun m hm => ?_⟩
    cases hmk : chessRules.make g m with
    | none => rfl
    | some c => have := made_is_legal wf nk hm hmk; rw [hnil] at this; cases this

/-- the moves the predicates quantify over are the rules' legal moves: every generated move that `make` accepts denotes
    a legal move of the rules, and every legal move of the rules is denoted by one -/
theorem forced_mate_moves_are_rules_moves (g : Game) (b : Board) (wf : Wf g b) (nk : NoKingCapture g) (sm : Spec.SMove) :
    sm ∈ Spec.legalMoves (Spec.abs g) ↔
      ∃ m ∈ chessRules.generate g true, (chessRules.make g m).isSome = true ∧ smove m = sm :=
  legal_iff_made wf nk sm

end Jence.Props.C11
