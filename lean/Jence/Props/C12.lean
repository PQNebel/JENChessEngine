/-
  C12 — every info line is well-formed, and its principal variation is a legal line.

  Model: `infoLine` / `idLoop` (`search` in `src/search.rs`).
-/
import Jence.Lemmas.NoOverflow
import Jence.Lemmas.PvLine
import Jence.Lemmas.LegalMoves
namespace Jence.Props.C12
open Jence

/-- **T12.1a** An info line is `info score (cp X | mate N) depth D nodes K time T pv m1 m2 … ` with the first
    `pv_lengths[0]` moves of PV row 0 (time is printed as 0 in the model; the correspondence masks the field). -/
theorem info_shape (score : Int) (depth : Nat) (e : Env) :
    infoLine score depth e =
      "info score " ++ (scoreField score).render ++ " depth " ++ toString depth ++ " nodes " ++ toString e.nodes ++
        " time 0 pv " ++ String.join ((List.range (e.pvLen.getD 0 0)).map fun i => (e.pvAt 0 i).toUci ++ " ") := by
  unfold infoLine mateOrCp pvLine
  -- `exact`: the two sides differ only by `toString` of string literals; the `rfl` tactic evaluates the strings instead
  exact rfl

/-- the score field is `cp X` or `mate N` -/
theorem score_field_shape (s : Int) :
    (∃ v : Int, (scoreField s).render = s!"cp {v}") ∨ (∃ n : Int, (scoreField s).render = s!"mate {n}") := by
  cases h : scoreField s with
  | cp v => left; exact ⟨v, rfl⟩
  | mate n => right; exact ⟨n, rfl⟩

/-- **T12.1b** node counts never decrease: every part of the search returns with at least the node count it started with
    (`Lemmas/Frame.negamax_still`), so successive info lines of one search carry non-decreasing counts -/
theorem nodes_monotone (R : Rules) (cfg : Cfg) (fuel : Nat) (g : Game) (depth : Nat) (alpha beta : Int) (e : Env)
    (ho : (negamax R cfg fuel g depth alpha beta e).2.rep.overflow = false) :
    e.nodes ≤ (negamax R cfg fuel g depth alpha beta e).2.nodes :=
  (negamax_still R cfg fuel g depth alpha beta e).nodes

/-- **T12.1c** the depth printed by an iteration is the loop counter, which grows by one per iteration: the line printed
    by iteration `cur` carries `depth cur`, and the next iteration runs with `cur + 1` -/
theorem idLoop_step (R : Rules) (cfg : Cfg) (g : Game) (count cur : Nat) (alpha beta score : Int) (e : Env) :
    let r := negamax R cfg negaFuel g cur alpha beta { e with followPv := true }
    idLoop R cfg g (count + 1) cur alpha beta score e =
      if r.2.stopping then (r.1, cur, r.2)
      else if r.1 ≤ alpha || r.1 ≥ beta then idLoop R cfg g count (cur + 1) (-Gen.INFINITY) Gen.INFINITY r.1 r.2
      else idLoop R cfg g count (cur + 1) (r.1 - 50) (r.1 + 50) r.1 (r.2.print (infoLine r.1 cur r.2)) := by
  simp only [idLoop]

/-- the moves an info line prints after `pv` are row 0 of the PV table -/
theorem info_pv_is_row0 (e : Env) : (List.range (e.pvLen.getD 0 0)).map (fun i => e.pvAt 0 i) = pvRow e 0 := by
  unfold pvRow
  simp

/-- every info line `idLoop` prints carries a legal line: the predicate follows the loop (T12.1c) and asks for
    `LegalLine` exactly where an info line is printed -/
def AllPrintedLegal (R : Rules) (cfg : Cfg) (g : Game) : Nat → Nat → Int → Int → Env → Prop
  | 0, _, _, _, _ => True
  | count + 1, cur, alpha, beta, e =>
    let r := negamax R cfg negaFuel g cur alpha beta { e with followPv := true }
    if r.2.stopping then True
    else if r.1 ≤ alpha ∨ r.1 ≥ beta then AllPrintedLegal R cfg g count (cur + 1) (-Gen.INFINITY) Gen.INFINITY r.2
    else LegalLine R g (pvRow r.2 0) ∧
      AllPrintedLegal R cfg g count (cur + 1) (r.1 - 50) (r.1 + 50) (r.2.print (infoLine r.1 cur r.2))

/-- **T12.2** Every info line of a search prints a legal line: each move of its PV is generated in, and accepted by
    `make_search_move` from, the position its predecessors lead to - for every rules instance, depth, window sequence,
    table content (cold or warm), history, poll schedule. (A line is printed only for an iteration that finished inside
    its aspiration window; inside the window the triangular PV table holds, row by row, the line of the last move that
    raised alpha, because every node on it was searched with an open window, reset its row on entry, and copied its
    child's row only when the child's value lay strictly inside the child's window.) -/
theorem info_lines_legal (R : Rules) (cfg : Cfg) (g : Game) :
    ∀ (count cur : Nat) (alpha beta : Int) (e : Env), PvWf e → e.ply = 0 → AllPrintedLegal R cfg g count cur alpha beta e := by
  intro count
  induction count with
  | zero => intro cur alpha beta e _ _; trivial
  | succ count ih =>
    intro cur alpha beta e wf hp
    simp only [AllPrintedLegal]
    have wf0 : PvWf ({ e with followPv := true } : Env) := wf.of_same (e := e) rfl rfl
    have hp0 : ({ e with followPv := true } : Env).ply = 0 := hp
    generalize ({ e with followPv := true } : Env) = e0 at wf0 hp0 ⊢
    obtain ⟨k, hrow⟩ := negamax_pv R cfg negaFuel g cur alpha beta e0
    have hrow := hrow (by omega)
    unfold PvGood at hrow
    rw [hp0] at hrow
    generalize negamax R cfg negaFuel g cur alpha beta e0 = r at k hrow ⊢
    have w2 := k.wf wf0
    have hp2 := k.ply.trans hp0
    split
    · trivial
    · rename_i hst
      split
      · exact ih _ _ _ _ w2 hp2
      · -- the row is taken by `assumption`: a term of type `LegalLine R g (pvRow ..)` makes the elaborator unfold both
        obtain ⟨_, _⟩ := hrow wf0 (by simpa using hst) (by omega) (by omega)
        constructor
        · assumption
        · exact ih _ _ _ _ (w2.print _) hp2

theorem info_lines_carry_legal_pv (R : Rules) (cfg : Cfg) (g : Game) :
    ∀ (count cur : Nat) (alpha beta score : Int) (e : Env), PvWf e → e.ply = 0 →
      (idLoop R cfg g count cur alpha beta score e).2.2.rep.overflow = false →
      AllPrintedLegal R cfg g count cur alpha beta e :=
  fun count cur alpha beta _ e wf hp _ => info_lines_legal R cfg g count cur alpha beta e wf hp

/-- the state a search starts from has a well-formed (empty) PV table -/
theorem fresh_pvwf (tt : TT) (rep : RepTable) : PvWf (Env.fresh tt rep) := .fresh tt rep

/-- **T12.2 for a whole search**: all info lines of `search` carry legal lines -/
theorem search_info_lines_legal (R : Rules) (cfg : Cfg) (g : Game) (depth : Int) (tt : TT) (rep : RepTable) :
    AllPrintedLegal R cfg g (if depth == -1 then Gen.MAX_PLY else (depth % 256).toNat) 1 (-Gen.INFINITY) Gen.INFINITY (Env.fresh tt rep) :=
  info_lines_legal R cfg g _ 1 _ _ _ (fresh_pvwf tt rep) rfl

/-- a line of rules moves, each legal in the position its predecessors lead to (by the rules specification) -/
def SpecLine : Spec.Position → List Spec.SMove → Prop
  | _, [] => True
  | p, sm :: rest => sm ∈ Spec.legalMoves p ∧ SpecLine (Spec.apply p sm) rest

/-- **T12.2 against the rules**: a legal line of the engine (what the info lines carry, by T12.2) denotes a line of
    moves each legal by the rules specification, played from the rules position the root denotes - for a consistent root
    in which the side not to move is not in check (clocks away from their limits along the line) -/
theorem legal_line_is_rules_line : ∀ (ms : List Move) (g : Game) (b : Board), Wf g b → NoKingCapture g →
    g.halfMoves + ms.length < 255 → g.fullMoves + ms.length < 65535 → LegalLine chessRules g ms →
    SpecLine (Spec.abs g) (ms.map smove) := by
  intro ms
  induction ms with
  | nil => intro g b _ _ _ _ _; trivial
  | cons m ms ih =>
    intro g b wf nk hh hf hl
    obtain ⟨hgen, g', hmk, hrest⟩ := LegalLine.cons.1 hl
    obtain ⟨s', hleg, habs⟩ := Sim.step (d := ms.length) ⟨wf, nk, hh, hf⟩ hgen hmk
    exact ⟨hleg, habs ▸ ih g' _ s'.wf s'.nk s'.half s'.full hrest⟩

/-- **T12.2 with the overflow hypothesis discharged**: with 65 free history slots all info lines carry legal lines -/
theorem search_info_lines_legal_of_room (R : Rules) (cfg : Cfg) (g : Game) (depth : Int) (tt : TT) (rep : RepTable) (hroom : HistoryRoom rep) :
    AllPrintedLegal R cfg g (if depth == -1 then Gen.MAX_PLY else (depth % 256).toNat) 1 (-Gen.INFINITY) Gen.INFINITY (Env.fresh tt rep) :=
  search_info_lines_legal R cfg g depth tt rep

end Jence.Props.C12
