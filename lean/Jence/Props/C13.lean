/-
  C13 — UCI liveness (the part inside the search): what `poll_input` does with the input channel.

  Model: `Env.poll` (`SearchEnv::poll_input` after commit `d6feace`), the channel `chan` (lines that have reached the
  engine and are not yet read) and the queue `deferred` (lines handed back to the command loop, which reads them before
  the channel). The arrival schedule `cfg.world` is arbitrary.
-/
import Jence.Lemmas.SearchNF
namespace Jence.Props.C13
open Jence

/-- the state of a running search that polls with no deadline hit and line `l` first in the channel -/
structure Reads (cfg : Cfg) (e : Env) (l : String) (rest : List String) : Prop where
  running : e.stopping = false
  noDeadline : (cfg.maxTime != -1 && (cfg.maxTime == 0 || (cfg.world e.polls).deadline)) = false
  first : e.chan ++ (cfg.world e.polls).lines = l :: rest

/-- what a reading poll does, up to the ghost transcript fields -/
theorem poll_reads (cfg : Cfg) (e : Env) (l : String) (rest : List String) (h : Reads cfg e l rest) :
    ∃ d n lg, e.poll cfg =
      Env.afterRead { e with polls := e.polls + 1, pollLog := e.pollLog.push e.nodes, chan := rest, digest := d, events := n, log := lg }
        l.trimAscii.toString (Env.classifyLine l.trimAscii.toString) := by
  obtain ⟨d, n, lg, hp⟩ := poll_running cfg e h.running
  refine ⟨d, n, lg, ?_⟩
  rw [hp]; simp only [h.noDeadline, h.first, Bool.false_eq_true, ↓reduceIte]

/-- **T13.a** `isready` during a search is answered with `readyok` at the next poll, the line is consumed, and the
    search is *not* stopped. -/
theorem isready_answered (cfg : Cfg) (e : Env) (l : String) (rest : List String) (h : Reads cfg e l rest)
    (hk : Env.classifyLine l.trimAscii.toString = .isready) :
    (e.poll cfg).out = e.out.push "readyok" ∧ (e.poll cfg).stopping = false ∧ (e.poll cfg).chan = rest ∧
    (e.poll cfg).deferred = e.deferred := by
  obtain ⟨d, n, lg, hp⟩ := poll_reads cfg e l rest h
  rw [hp, hk]
  simp [Env.afterRead, Env.print, h.running]

/-- **T13.b** `stop` stops the search; the line is consumed and nothing is handed back. -/
theorem stop_stops (cfg : Cfg) (e : Env) (l : String) (rest : List String) (h : Reads cfg e l rest)
    (hk : Env.classifyLine l.trimAscii.toString = .stop) :
    (e.poll cfg).stopping = true ∧ (e.poll cfg).chan = rest ∧ (e.poll cfg).deferred = e.deferred ∧ (e.poll cfg).out = e.out := by
  obtain ⟨d, n, lg, hp⟩ := poll_reads cfg e l rest h
  rw [hp, hk]
  simp [Env.afterRead]

/-- **T13.c** Any other line (`quit`, `ucinewgame`, `position …`, …) stops the search and is *not lost*: it is appended
    to the queue the command loop reads first. -/
theorem other_line_deferred (cfg : Cfg) (e : Env) (l : String) (rest : List String) (h : Reads cfg e l rest)
    (hk : Env.classifyLine l.trimAscii.toString = .other) :
    (e.poll cfg).stopping = true ∧ (e.poll cfg).chan = rest ∧ (e.poll cfg).deferred = e.deferred ++ [l.trimAscii.toString] ∧
    (e.poll cfg).out = e.out := by
  obtain ⟨d, n, lg, hp⟩ := poll_reads cfg e l rest h
  rw [hp, hk]
  simp [Env.afterRead]

/-- **T13.d** Once the search is stopping no poll reads anything: a command sent right after `stop` stays in the
    channel for the command loop (at most one line is ever taken per poll, and none after the stop). -/
theorem nothing_read_after_stop (cfg : Cfg) (e : Env) (hs : e.stopping = true) : e.poll cfg = e := poll_stopped cfg e hs

/-- **T13.e** When the time limit has expired the poll stops the search without touching the input: nothing is consumed. -/
theorem deadline_keeps_input (cfg : Cfg) (e : Env) (hrun : e.stopping = false)
    (hd : (cfg.maxTime != -1 && (cfg.maxTime == 0 || (cfg.world e.polls).deadline)) = true) :
    (e.poll cfg).stopping = true ∧ (e.poll cfg).chan = e.chan ++ (cfg.world e.polls).lines ∧ (e.poll cfg).deferred = e.deferred ∧
    (e.poll cfg).out = e.out := by
  obtain ⟨d, n, lg, hp⟩ := poll_running cfg e hrun
  rw [hp]; simp [hd]

/-- **T13.f** Every `go` is answered with exactly one more output line at the end of `search`, the `bestmove` line
    (the lines before it are `info` lines and `readyok` answers). -/
theorem go_answered (R : Rules) (cfg : Cfg) (g : Game) (depth : Int) (tt : TT) (rep : RepTable) :
    ∃ before : Array String, (search R cfg g depth tt rep).2.out = before.push s!"bestmove {(search R cfg g depth tt rep).1.bestMove.toUci}" := by
  obtain ⟨hb, _, _, _, he⟩ := search_eq R cfg g depth tt rep
  rw [he, hb]
  exact ⟨_, rfl⟩

end Jence.Props.C13
