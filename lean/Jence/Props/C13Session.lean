/-
  C13 at the level of the command loop (`Model/Uci`): what each command does to the session, that `quit` ends the loop,
  that lines a search hands back are read before anything else, and (with C18) that `ucinewgame` + `position` + `go`
  prints what a fresh process prints.
-/
import Jence.Model.Uci
import Jence.Props.C13
import Jence.Props.C18
namespace Jence.Props.C13
open Jence

/-- **T13.1a** `isready` at the command loop is answered with `readyok`, whatever the state -/
theorem session_isready (W : Nat → Cfg) (s : Session) (line : String) (hne : line ≠ "") (h : Env.firstWordLower line = "isready") :
    s.step W line = (s.print ["readyok"], []) := by
  unfold Session.step
  rw [if_neg (by simpa using hne)]
  simp only [h]

/-- **T13.1b** `uci` is answered with the identification and `uciok` -/
theorem session_uci (W : Nat → Cfg) (s : Session) (line : String) (hne : line ≠ "") (h : Env.firstWordLower line = "uci") :
    s.step W line = (s.print ["id name JENCE", "id author Joachim Enggaard Nebel", "uciok"], []) := by
  unfold Session.step
  rw [if_neg (by simpa using hne)]
  simp only [h]

/-- **T13.1c** `quit` ends the session: the loop stops, nothing is handed back -/
theorem session_quit (W : Nat → Cfg) (s : Session) (line : String) (hne : line ≠ "") (h : Env.firstWordLower line = "quit") :
    s.step W line = ({ s.print [" Exited!"] with running := false }, []) := by
  unfold Session.step
  rw [if_neg (by simpa using hne)]
  simp only [h]

/-- the loop does nothing once the session has ended -/
theorem run_ended (W : Nat → Cfg) (fuel : Nat) (s : Session) (ls : List String) (h : s.running = false) : Session.run W fuel s ls = s := by
  cases fuel with
  | zero => rfl
  | succ f =>
    cases ls with
    | nil => rfl
    | cons l rest => simp [Session.run, h]

/-- one turn of the loop: lines handed back by the command come before the rest of the input -/
theorem run_step (W : Nat → Cfg) (fuel : Nat) (s : Session) (l : String) (rest : List String) (h : s.running = true) :
    Session.run W (fuel + 1) s (l :: rest) = Session.run W fuel (s.step W l).1 ((s.step W l).2 ++ rest) := by
  simp [Session.run, h]

/-- **T13.1c'** whatever follows `quit` in the input is never acted on -/
theorem nothing_after_quit (W : Nat → Cfg) (fuel : Nat) (s : Session) (line : String) (rest : List String) (hr : s.running = true)
    (hne : line ≠ "") (h : Env.firstWordLower line = "quit") :
    Session.run W (fuel + 1) s (line :: rest) = { s.print [" Exited!"] with running := false } := by
  rw [run_step W fuel s line rest hr, session_quit W s line hne h]
  exact run_ended W fuel _ _ rfl

/-- a `go` line that reaches the search, when the history array does not overflow: the step as one equation. This is
    the form to rewrite with; `session_go` states the same by fields, under a `let`, for every outcome of the parse -/
theorem step_go (W : Nat → Cfg) (s : Session) (line : String) (hne : line ≠ "") (h : Env.firstWordLower line = "go")
    (msgs : List String) (d t : Int) (hp : parseGo s.game.white (String.ofList (line.toList.drop 2)) = (msgs, .search d t))
    (ho : (search chessRules { W s.searches with maxTime := t } s.game d s.tt s.rep).2.rep.overflow = false) :
    s.step W line =
      ({ (s.print msgs).print (search chessRules { W s.searches with maxTime := t } s.game d s.tt s.rep).2.out.toList with
          tt := (search chessRules { W s.searches with maxTime := t } s.game d s.tt s.rep).2.tt,
          rep := (search chessRules { W s.searches with maxTime := t } s.game d s.tt s.rep).2.rep,
          searches := s.searches + 1 },
       (search chessRules { W s.searches with maxTime := t } s.game d s.tt s.rep).2.deferred ++
         (search chessRules { W s.searches with maxTime := t } s.game d s.tt s.rep).2.chan.map (fun l => l.trimAscii.toString)) := by
  simp only [Session.step, beq_iff_eq, hne, ↓reduceIte, h, hp]
  simp only [Session.print, ho, Bool.false_eq_true, ↓reduceIte]

/-- **T13.1d** `go`: the lines `parse_go` prints, then the lines of the search, the last of which is the one `bestmove`
    line; the table and the history array are the ones the search left; and every line the search took off the input
    without handling it (`deferred`), followed by everything still in the channel, is what the loop reads next - no
    command is lost. -/
theorem session_go (W : Nat → Cfg) (s : Session) (line : String) (hne : line ≠ "") (h : Env.firstWordLower line = "go")
    (msgs : List String) (d t : Int) (hp : parseGo s.game.white (String.ofList (line.toList.drop 2)) = (msgs, .search d t))
    (ho : (search chessRules { W s.searches with maxTime := t } s.game d s.tt s.rep).2.rep.overflow = false) :
    let r := search chessRules { W s.searches with maxTime := t } s.game d s.tt s.rep
    (s.step W line).1.out = s.out ++ msgs.toArray ++ r.2.out.toList.toArray ∧
    (s.step W line).1.tt = r.2.tt ∧ (s.step W line).1.rep = r.2.rep ∧ (s.step W line).1.game = s.game ∧
    (s.step W line).1.running = s.running ∧
    (s.step W line).2 = r.2.deferred ++ r.2.chan.map (fun l => l.trimAscii.toString) ∧
    ∃ before : Array String, r.2.out = before.push s!"bestmove {r.1.bestMove.toUci}" := by
  rw [step_go W s line hne h msgs d t hp ho]
  dsimp only [Session.print]
  exact ⟨rfl, rfl, rfl, rfl, rfl, rfl, go_answered chessRules _ s.game d s.tt s.rep⟩

/-- **T18.2a-b at the command loop** `ucinewgame`: the table is emptied, the history array reset, the position kept -/
theorem session_newgame (W : Nat → Cfg) (s : Session) (line : String) (hne : line ≠ "") (h : Env.firstWordLower line = "ucinewgame") :
    s.step W line = ({ s with rep := s.rep.clear, tt := s.tt.clear }, []) := by
  unfold Session.step
  rw [if_neg (by simpa using hne)]
  simp only [h]

/-- `position …`: the history array is reset and refilled by `parse_position`; a malformed command ends the process -/
theorem session_position (W : Nat → Cfg) (s : Session) (line : String) (hne : line ≠ "") (h : Env.firstWordLower line = "position")
    (hmore : (line.splitOn " ").length ≥ 2) :
    s.step W line = (match parsePosition (String.ofList (line.toList.drop 9)) s.rep.clear with
      | .ok (g, rep) => ({ s with game := g, rep := rep }, [])
      | _ => (s.die, [])) := by
  unfold Session.step
  rw [if_neg (by simpa using hne)]
  simp only [h]
  rw [if_neg (by simpa using hmore)]
  cases parsePosition (String.ofList (line.toList.drop 9)) s.rep.clear with
  | ok a => rfl
  | none => rfl
  | panic => rfl

/-- **T18.2 at the command loop.** Two sessions - one that has lived (any table `t`, any history array `r` that has not
    overflowed, any output so far, any number of earlier searches) and has just executed `ucinewgame`, one freshly started -
    are given the same `position` arguments and then the same `go` line. Both parse to the same game or fail alike
    (`C18.newgame_then_position_like_fresh`); and the `go` prints the same lines in both, for every input schedule `cfg0`
    of that search (hook trace off) and every form of `go`. -/
theorem newgame_position_go_like_fresh (cfg0 : Cfg) (h0 : cfg0.trace = 0) (A B : Session) (args : String) (r : RepTable) (t : TT)
    (ho : r.overflow = false) (hsz : r.table.size = Gen.REP_CAPACITY)
    (g g' : Game) (ra rb : RepTable)
    (hposA : parsePosition args r.clear = .ok (g, ra)) (hposB : parsePosition args RepTable.new = .ok (g', rb))
    (hA : A.game = g ∧ A.tt = t.clear ∧ A.rep = ra) (hB : B.game = g' ∧ B.tt = TT.new t.size ∧ B.rep = rb)
    (line : String) (hgo : Env.firstWordLower line = "go") :
    g = g' ∧ ∃ X : List String, (A.step (fun _ => cfg0) line).1.out = A.out ++ X.toArray ∧ (B.step (fun _ => cfg0) line).1.out = B.out ++ X.toArray := by
  have hp := parsePosition_ext args r.clear RepTable.new (clear_like_new r ho hsz)
  rw [hposA, hposB] at hp
  obtain ⟨hg, hr⟩ := hp
  subst hg
  refine ⟨rfl, ?_⟩
  by_cases hne : line = ""
  · refine ⟨[], ?_⟩
    unfold Session.step
    rw [if_pos (by simpa using hne), if_pos (by simpa using hne)]
    exact ⟨by simp, by simp⟩
  · obtain ⟨hA1, hA2, hA3⟩ := hA
    obtain ⟨hB1, hB2, hB3⟩ := hB
    unfold Session.step
    rw [if_neg (by simpa using hne), if_neg (by simpa using hne)]
    simp only [hgo, hA1, hB1]
    generalize parseGo g.white (String.ofList (line.toList.drop 2)) = pg
    obtain ⟨msgs, res⟩ := pg
    cases res with
    | panic => exact ⟨msgs, rfl, rfl⟩
    | nosearch => exact ⟨msgs, rfl, rfl⟩
    | search d tm =>
      simp only [hA1, hB1, hA2, hA3, hB2, hB3, Session.print]
      obtain ⟨_, hout, _, hrep⟩ := C18.search_reads_recorded_history_only chessRules { cfg0 with maxTime := tm } h0 g d t.clear ra rb hr
      have hov := hrep.2.2.1
      have htt : TT.new t.size = t.clear := rfl
      rw [htt]
      by_cases hover : (search chessRules { cfg0 with maxTime := tm } g d t.clear ra).2.rep.overflow = true
      · rw [if_pos hover, if_pos (by rw [← hov]; exact hover)]
        exact ⟨msgs, rfl, rfl⟩
      · rw [if_neg hover, if_neg (by rw [← hov]; exact hover)]
        refine ⟨msgs ++ (search chessRules { cfg0 with maxTime := tm } g d t.clear ra).2.out.toList, ?_, ?_⟩
        · rw [Array.append_assoc, List.append_toArray msgs]
        · rw [hout, Array.append_assoc, List.append_toArray msgs]

end Jence.Props.C13
