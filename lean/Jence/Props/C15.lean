/-
  C15 — attack tables are exact for every square and every occupancy.

  Model: `build.rs` (`rook_attacks_on_the_fly`, `bishop_attacks_on_the_fly`, masks, offsets, leaper tables) and the
  getters of `src/attack_tables.rs`. Specification: coordinate walks / coordinate patterns of `Spec.Rules`.
-/
import Jence.Lemmas.Attack
import Jence.Lemmas.TableLift
import Jence.Lemmas.AttackSym
namespace Jence.Props.C15
open Jence

/-- **T15.3** For every square and *every* set of occupied squares (all 2^64, relevant or not), the attack sets the table
    generator (`build.rs`) computes by bit shifts are the squares reached by sliding along the rook's / bishop's lines up to and
    including the first occupied square. -/
theorem onTheFly_rook (sq : Nat) (hsq : sq < 64) (occ : UInt64) : rookAttacksOnTheFly sq occ = Spec.slideRook sq occ :=
  rookOnTheFly_eq_slide sq hsq occ

theorem onTheFly_bishop (sq : Nat) (hsq : sq < 64) (occ : UInt64) : bishopAttacksOnTheFly sq occ = Spec.slideBishop sq occ :=
  bishopOnTheFly_eq_slide sq hsq occ

/-- **T15.6** the knight table equals the rules' jump pattern on all 64 squares -/
theorem leapers_knight : ∀ sq, sq < 64 → getKnightAttacks sq = Spec.knightPattern sq := knight_isLeaper

/-- the king table equals the rules' step pattern on all 64 squares -/
theorem leapers_king : ∀ sq, sq < 64 → getKingAttacks sq = Spec.kingPattern sq := king_isLeaper

/-- both pawn tables equal the rules' capture pattern on all 64 squares (including the rows where no pawn can stand,
    which `is_square_attacked` consults in the reverse direction) -/
theorem leapers_pawn : ∀ sq, sq < 64 → (getPawnAttacks sq true = Spec.pawnPattern true sq ∧ getPawnAttacks sq false = Spec.pawnPattern false sq) :=
  fun sq h => ⟨pawn_isLeaper true sq h, pawn_isLeaper false sq h⟩

/-- **T15.4** table layout: the rook blocks start at the prefix sums of `2^popcount(mask)`, the bishop blocks follow, and
    the total is the size of the table (107 648 for the masks in the source) -/
theorem table_layout :
    ROOK_OFFSETS.getD 0 0 = 0 ∧
    (∀ sq, sq < 63 → ROOK_OFFSETS.getD (sq + 1) 0 = ROOK_OFFSETS.getD sq 0 + 2 ^ popCount (ROOK_MASK.getD sq 0)) ∧
    BISHOP_OFFSETS.getD 0 0 = ROOK_OFFSETS.getD 63 0 + 2 ^ popCount (ROOK_MASK.getD 63 0) ∧
    (∀ sq, sq < 63 → BISHOP_OFFSETS.getD (sq + 1) 0 = BISHOP_OFFSETS.getD sq 0 + 2 ^ popCount (BISHOP_MASK.getD sq 0)) ∧
    BISHOP_OFFSETS.getD 63 0 + 2 ^ popCount (BISHOP_MASK.getD 63 0) = 107648 := by
  have r64 : szSum (blockSize ROOK_MASK) 64 = _ := szSum_succ _ 63
  have b64 : szSum (blockSize BISHOP_MASK) 64 = _ := szSum_succ _ 63
  refine ⟨rook_offset 0 (by omega), fun sq h => ?_, ?_, fun sq h => ?_, ?_⟩
  · rw [rook_offset (sq + 1) (by omega), rook_offset sq (by omega), szSum_succ, blockSize]
  · rw [bishop_offset 0 (by omega), rook_offset 63 (by omega), r64, blockSize, show szSum (blockSize BISHOP_MASK) 0 = 0 from rfl,
      Nat.add_zero]
  · rw [bishop_offset (sq + 1) (by omega), bishop_offset sq (by omega), szSum_succ, blockSize]; exact (Nat.add_assoc ..).symm
  · rw [bishop_offset 63 (by omega), ← table_size, b64, blockSize]; exact Nat.add_assoc ..

/-- **T15.1** The PEXT-indexed lookup `SLIDING_ATTACKS[ROOK_OFFSETS[sq] + pext(occ, ROOK_MASK[sq])]` returns, for every
    square and **every** 64-bit occupancy (relevant bits or not), exactly the squares a rook reaches by sliding up to and
    including the first occupied square. -/
theorem lookup_rook (sq : Nat) (hsq : sq < 64) (occ : UInt64) : getRookAttacks sq occ = Spec.slideRook sq occ :=
  rook_isSlider sq hsq occ

/-- **T15.2** the same for bishops -/
theorem lookup_bishop (sq : Nat) (hsq : sq < 64) (occ : UInt64) : getBishopAttacks sq occ = Spec.slideBishop sq occ :=
  bishop_isSlider sq hsq occ

/-- ... and queens -/
theorem lookup_queen (sq : Nat) (hsq : sq < 64) (occ : UInt64) :
    getQueenAttacks sq occ = Spec.slideRook sq occ ||| Spec.slideBishop sq occ := by
  unfold getQueenAttacks; rw [lookup_rook sq hsq, lookup_bishop sq hsq]

/-- the lookups are symmetric: `t` is attacked from `s` iff `s` is attacked from `t`, for the same occupancy (what the
    reverse lookup of `is_square_attacked` relies on); the pawn tables mirror each other -/
theorem lookup_symmetric (s t : Nat) (hs : s < 64) (ht : t < 64) (occ : UInt64) :
    (getBit (getRookAttacks s occ) t = true → getBit (getRookAttacks t occ) s = true) ∧
    (getBit (getBishopAttacks s occ) t = true → getBit (getBishopAttacks t occ) s = true) ∧
    (getBit (getQueenAttacks s occ) t = true → getBit (getQueenAttacks t occ) s = true) ∧
    getBit (getKnightAttacks s) t = getBit (getKnightAttacks t) s ∧
    getBit (getKingAttacks s) t = getBit (getKingAttacks t) s ∧
    getBit (getPawnAttacks s true) t = getBit (getPawnAttacks t false) s :=
  ⟨rookAttacks_symm s t hs ht occ, bishopAttacks_symm s t hs ht occ, queenAttacks_symm s t hs ht occ,
   (leapers_symm s t hs ht).1, (leapers_symm s t hs ht).2.1, (leapers_symm s t hs ht).2.2⟩

/-- **T15.5** PDEP after PEXT with the same mask keeps exactly the masked bits (the index round trip of the table) -/
theorem pdep_after_pext (x m : UInt64) : pdep (pext x m) m = x &&& m := pdep_pext x m

/-- the index stays inside the block -/
theorem pext_in_block (x m : UInt64) : (pext x m).toNat < 2 ^ popCount m := pext_lt x m

theorem queen_is_union (sq : Nat) (occ : UInt64) : getQueenAttacks sq occ = getRookAttacks sq occ ||| getBishopAttacks sq occ := rfl

end Jence.Props.C15
