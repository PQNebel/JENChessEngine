/-
  C16 — static evaluation is pure, colour-symmetric and bounded.

  Model: `Jence.evaluate` (`src/evaluation.rs`).
-/
import Jence.Model.Eval
import Jence.Lemmas.EvalBound
import Jence.Lemmas.EvalMirror
import Jence.Lemmas.Wf
namespace Jence.Props.C16
open Jence

/-- **T16.1** The evaluation reads only the piece sets, the occupancy sets and the side to move: castling rights,
    en-passant square, both clocks and the key never influence it. -/
theorem eval_ignores (g : Game) (castling ep halfMoves fullMoves : Nat) (key : UInt64) :
    evaluate { g with castling := castling, ep := ep, halfMoves := halfMoves, fullMoves := fullMoves, key := key }
      = evaluate g := rfl

theorem evalWhite_side (g : Game) (w : Bool) : evalWhite { g with white := w } = evalWhite g := rfl

/-- **T16.2** Switching only the side to move negates the value. -/
theorem eval_side (g : Game) : evaluate { g with white := !g.white } = - evaluate g := by
  unfold evaluate
  rw [evalWhite_side]
  cases g.white <;> simp

theorem eval_congr (g h : Game) (hb : g.bbs = h.bbs) (hw : g.whiteOcc = h.whiteOcc) (hbl : g.blackOcc = h.blackOcc)
    (ha : g.allOcc = h.allOcc) (hs : g.white = h.white) : evaluate g = evaluate h := by
  have : g = { h with castling := g.castling, ep := g.ep, halfMoves := g.halfMoves, fullMoves := g.fullMoves, key := g.key } := by
    cases g; cases h; simp_all
  rw [this]; rfl

/-- **T16.4** The magnitude of the static evaluation stays strictly below the range reserved for mate scores, for every
    position with one king and at most fifteen other men a side (every position reachable by legal play), whoever is to
    move and whatever the other fields hold. The per-piece bounds are computed from the generated tables, so a re-tuned
    weight or piece-square value re-checks the inequality. -/
theorem eval_bounded (g : Game) (h : MenOk g) : -Gen.MATE_BOUND < evaluate g ∧ evaluate g < Gen.MATE_BOUND :=
  evaluate_bound g h

/-- **T16.3** The colour-mirrored position - every piece set flipped top to bottom and handed to the other colour, the
    occupancy sets swapped likewise, the mover swapped - gets the same value, for every position whose pawns stand on
    ranks 2-7 (every legal position). The engine's "passed pawn" masks are *not* mirror images of each other on the back
    ranks (`RANK_MASKS[rr * 8]` is always rank 8), which is where the hypothesis enters. -/
theorem eval_mirror (g g' : Game) (hm : IsMirror g g') (hp : PawnRows g) : evaluate g' = evaluate g :=
  evaluate_mirror hm hp

theorem eval_mirror_fn (g : Game) (hp : PawnRows g) : evaluate (mirror g) = evaluate g :=
  evaluate_mirror (mirror_isMirror g) hp

theorem wf_pawnRows (g : Game) (b : Board) (wf : Wf g b) : PawnRows g := by
  intro v hv h
  apply wf.ok.pawns v hv
  rcases h with h | h
  · exact Or.inl ((wf.bit_iff (by decide) hv).1 h)
  · exact Or.inr ((wf.bit_iff (by decide) hv).1 h)

/-- **T16.3 for consistent positions** -/
theorem eval_mirror_wf (g : Game) (b : Board) (wf : Wf g b) : evaluate (mirror g) = evaluate g :=
  eval_mirror_fn g (wf_pawnRows g b wf)

theorem mirror_mirror_bb (g : Game) (p : Nat) (hp : p < 12) : (mirror (mirror g)).bb p = g.bb p := by
  have h1 := (mirror_isMirror (mirror g)).bb p hp
  have hlt : (p + 6) % 12 < 12 := Nat.mod_lt _ (by decide)
  have h2 := (mirror_isMirror g).bb _ hlt
  have hback : ((p + 6) % 12 + 6) % 12 = p := by omega
  rw [h1, h2, hback, flipBB_flipBB]

def startGame : Game :=
  { bbs := #[0x00ff000000000000, 0x4200000000000000, 0x2400000000000000, 0x8100000000000000, 0x0800000000000000, 0x1000000000000000,
             0x000000000000ff00, 0x0000000000000042, 0x0000000000000024, 0x0000000000000081, 0x0000000000000008, 0x0000000000000010],
    whiteOcc := 0xffff000000000000, blackOcc := 0x000000000000ffff, allOcc := 0xffff00000000ffff, white := true, ep := 64,
    castling := 15, fullMoves := 1, halfMoves := 0, key := 0 }

set_option maxRecDepth 100000 in
/-- non-vacuity: the hypothesis holds of the start position -/
example : MenOk startGame := by
  constructor <;> decide +kernel

/-- non-vacuity of T16.3: the start position has its pawns on rows 2-7 -/
example : PawnRows startGame := by unfold PawnRows; decide +kernel

/-- the hypothesis of T16.3 is needed: with a black pawn on rank 1 behind a white pawn (not a legal position) the two
    values differ - the "passed pawn" masks of the two colours are not mirror images on the back ranks. Outside the
    property's quantifier (legal positions); recorded as an observation. -/
def backRowPawns : Game :=
  { bbs := #[bit 28, 0, 0, 0, 0, 0, bit 60, 0, 0, 0, 0, 0], whiteOcc := bit 28, blackOcc := bit 60, allOcc := bit 28 ||| bit 60,
    white := true, ep := 64, castling := 0, fullMoves := 1, halfMoves := 0, key := 0 }
theorem mirror_needs_pawn_rows : evaluate (mirror backRowPawns) ≠ evaluate backRowPawns := by decide +kernel

end Jence.Props.C16
