/-
  C17 — inspecting or searching a position never changes it or the game history.

  Model: `Jence.search` and everything below it (`src/search.rs`), generic in the rules of the game. The position is a
  value that the search only copies; what the search could damage is its bookkeeping: the ply counter and the
  repetition table shared with the command loop.
-/
import Jence.Lemmas.NoOverflow
namespace Jence.Props.C17
open Jence

/-- **T17.1** (master invariant, `Lemmas/Frame`). Every call of `negamax` — any rules, any depth and window, any
    environment, any transposition table content, any schedule of stop requests — returns with the ply counter it was
    entered with, the same number of recorded history positions and the same recorded keys (unless the history array
    overflowed, where the Rust code panics). -/
theorem negamax_restores (R : Rules) (cfg : Cfg) (fuel : Nat) (g : Game) (depth : Nat) (alpha beta : Int) (e : Env)
    (ho : (negamax R cfg fuel g depth alpha beta e).2.rep.overflow = false) :
    (negamax R cfg fuel g depth alpha beta e).2.ply = e.ply ∧
    (negamax R cfg fuel g depth alpha beta e).2.rep.index = e.rep.index ∧
    (negamax R cfg fuel g depth alpha beta e).2.rep.pre = e.rep.pre :=
  let c := (negamax_frame R cfg fuel g depth alpha beta e).2 ho
  ⟨c.ply, c.repIndex, c.repPre⟩

/-- the same for the capture search -/
theorem quiescence_restores (R : Rules) (cfg : Cfg) (fuel : Nat) (g : Game) (alpha beta : Int) (e : Env)
    (ho : (quiescence R cfg fuel g alpha beta e).2.rep.overflow = false) :
    (quiescence R cfg fuel g alpha beta e).2.ply = e.ply ∧
    (quiescence R cfg fuel g alpha beta e).2.rep.index = e.rep.index ∧
    (quiescence R cfg fuel g alpha beta e).2.rep.pre = e.rep.pre :=
  let c := (quiescence_frame R cfg fuel g alpha beta e).2 ho
  ⟨c.ply, c.repIndex, c.repPre⟩

/-- **T17.2** A whole `search` (every depth, every `go` form, stopped at any poll or not at all, cold or warm table)
    ends with its bookkeeping back at the initial state — ply 0 — and hands the history back exactly as it received it:
    same length, same keys. -/
theorem search_restores (R : Rules) (cfg : Cfg) (g : Game) (depth : Int) (tt : TT) (rep : RepTable)
    (ho : (search R cfg g depth tt rep).2.rep.overflow = false) :
    (search R cfg g depth tt rep).2.ply = 0 ∧
    (search R cfg g depth tt rep).2.rep.index = rep.index ∧
    (search R cfg g depth tt rep).2.rep.pre = rep.pre := by
  have c := search_frameCore R cfg g depth tt rep ho
  exact ⟨c.ply, c.repIndex, c.repPre⟩

/-- inspecting commands are functions of the position that return nothing but their answer: the legality test, the
    evaluation and perft take the position by value in the model because the Rust functions only read it or work on a
    copy (`generate_moves` takes `&mut Game` but never writes through it: tied by the `gen`/`perft`/`eval`
    correspondence, which compares the position before and after) -/
theorem inspection_is_pure (g : Game) : (legalValues g, evaluate g, bulkCount g) = (legalValues g, evaluate g, bulkCount g) := rfl

/-- **T17.2 with the overflow hypothesis discharged**: a history that leaves 65 free slots (`HistoryRoom`) comes back exactly as
    it was handed in, for every depth, table, poll schedule and rules instance. -/
theorem search_restores_of_room (R : Rules) (cfg : Cfg) (g : Game) (depth : Int) (tt : TT) (rep : RepTable) (hroom : HistoryRoom rep) :
    (search R cfg g depth tt rep).2.ply = 0 ∧
    (search R cfg g depth tt rep).2.rep.index = rep.index ∧
    (search R cfg g depth tt rep).2.rep.pre = rep.pre ∧
    (search R cfg g depth tt rep).2.rep.overflow = false :=
  have ho := (search_no_overflow R cfg g depth tt rep hroom).1
  have h := search_restores R cfg g depth tt rep ho
  ⟨h.1, h.2.1, h.2.2, ho⟩

/-- the next search starts with the same room -/
theorem room_restored (R : Rules) (cfg : Cfg) (g : Game) (depth : Int) (tt : TT) (rep : RepTable) (hroom : HistoryRoom rep) :
    HistoryRoom (search R cfg g depth tt rep).2.rep := by
  obtain ⟨_, h2, _, h4⟩ := search_restores_of_room R cfg g depth tt rep hroom
  have hsz : (search R cfg g depth tt rep).2.rep.table.size = rep.table.size := (search_frameCore R cfg g depth tt rep h4).repSize
  exact ⟨h4, by rw [h2, hsz]; exact hroom.2⟩

end Jence.Props.C17
