/-
  C17 at the command loop (`Model/Uci`): the inspection commands leave position, table and history alone; a `go` leaves
  the position alone and hands the history back as it found it.
-/
import Jence.Props.C13Session
import Jence.Props.C17
namespace Jence.Props.C17
open Jence

/-- **T17.3** `d`, `eval`, `isready` and `uci` only print: position, table, history array and the liveness flags stay
    as they were, whatever the state -/
theorem inspection_commands_are_pure (W : Nat → Cfg) (s : Session) (line : String) (hne : line ≠ "")
    (h : Env.firstWordLower line = "d" ∨ Env.firstWordLower line = "eval" ∨ Env.firstWordLower line = "isready" ∨
         Env.firstWordLower line = "uci") :
    (s.step W line).1.game = s.game ∧ (s.step W line).1.tt = s.tt ∧ (s.step W line).1.rep = s.rep ∧
    (s.step W line).1.running = s.running ∧ (s.step W line).1.panicked = s.panicked ∧ (s.step W line).2 = [] := by
  unfold Session.step
  rw [if_neg (by simpa using hne)]
  rcases h with h | h | h | h <;> simp only [h, Session.print] <;> trivial

/-- an unknown command only prints -/
theorem unknown_command_is_pure (s : Session) :
    (s.print ["  Unknown command"]).game = s.game ∧ (s.print ["  Unknown command"]).tt = s.tt ∧ (s.print ["  Unknown command"]).rep = s.rep :=
  ⟨rfl, rfl, rfl⟩

/-- **T17.2 at the command loop** a `go` (any form that reaches the search, any input schedule during it) leaves the
    position as it was and hands the history array back with the same recorded history - same length, same keys -
    whenever the history leaves room (`HistoryRoom`, i.e. up to 935 recorded positions; longer games are finding D7) -/
theorem go_keeps_position_and_history (W : Nat → Cfg) (s : Session) (line : String) (hne : line ≠ "") (h : Env.firstWordLower line = "go")
    (msgs : List String) (d t : Int) (hp : parseGo s.game.white (String.ofList (line.toList.drop 2)) = (msgs, .search d t))
    (hroom : HistoryRoom s.rep) :
    (s.step W line).1.game = s.game ∧ (s.step W line).1.rep.pre = s.rep.pre ∧ (s.step W line).1.rep.index = s.rep.index ∧
    (s.step W line).1.panicked = s.panicked ∧ HistoryRoom (s.step W line).1.rep := by
  have hr := search_restores_of_room chessRules { W s.searches with maxTime := t } s.game d s.tt s.rep hroom
  rw [C13.step_go W s line hne h msgs d t hp hr.2.2.2]
  dsimp only [Session.print]
  exact ⟨rfl, hr.2.2.1, hr.2.1, rfl, room_restored chessRules _ s.game d s.tt s.rep hroom⟩

end Jence.Props.C17
