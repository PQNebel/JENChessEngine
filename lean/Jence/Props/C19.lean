/-
  C19 — shallow searches return the exact minimax value: the capture search at the horizon (T19.1), the main search at
  nominal depths 1 and 2 with the table bypassed (T19.2), the iterations of the deepening loop (T19.3).

  Model: `quiescence`, `negamax`, `idLoop` (`src/search.rs`), generic in the rules; `qVal` is the plain minimax value of the capture tree
  (stand-pat, made captures only, ply cap, half-move-100 cut-off) — no window, no move ordering, no environment.
-/
import Jence.Lemmas.NVal
import Jence.Lemmas.NoOverflow
namespace Jence.Props.C19
open Jence

/-- **T19.1** For every rules instance, position, window `alpha < beta`, environment (killers, history scores, PV,
    transposition table, stop flag, input schedule) and ply within the limit: the value `quiescence` returns is the
    capture-tree minimax value when it lies strictly inside the window, an upper bound of it when it is at most `alpha`,
    and a lower bound when it is at least `beta` (so a value outside the window always reports the side on which the
    true value lies). Move ordering drops out because the maximum over a permutation is the same maximum (T6.2). -/
theorem quiescence_is_sound_minimax (R : Rules) (cfg : Cfg) (fuel : Nat) (g : Game) (alpha beta : Int) (e : Env)
    (hab : alpha < beta) (hply : e.ply ≤ Gen.MAX_PLY) (hfuel : e.ply + fuel ≥ Gen.MAX_PLY + 1) :
    Sound (quiescence R cfg fuel g alpha beta e).1 (qVal R fuel g e.ply) alpha beta :=
  quiescence_value R cfg fuel g alpha beta e hab hply hfuel

/-- the reading used in the property: same side of the window as the true value, and equal to it inside -/
theorem quiescence_agrees (R : Rules) (cfg : Cfg) (fuel : Nat) (g : Game) (alpha beta : Int) (e : Env)
    (hab : alpha < beta) (hply : e.ply ≤ Gen.MAX_PLY) (hfuel : e.ply + fuel ≥ Gen.MAX_PLY + 1) :
    Agree (quiescence R cfg fuel g alpha beta e).1 (qVal R fuel g e.ply) alpha beta :=
  (quiescence_is_sound_minimax R cfg fuel g alpha beta e hab hply hfuel).agree

/-- the fuel `negamax` hands to `quiescence` is enough at every ply the main search can be at -/
theorem qFuel_suffices (ply : Nat) (h : ply ≤ Gen.MAX_PLY) : ply + qFuel ≥ Gen.MAX_PLY + 1 := qFuel_room ply

/-- the value does not depend on the order of the captures -/
theorem qValue_order_free (R : Rules) (V : Game → Int) (g : Game) (l₁ l₂ : List Move) (h : l₁.Perm l₂) (init : Int) :
    bestOf R V g l₁ init = bestOf R V g l₂ init := bestOf_perm R V g l₁ l₂ h init

/-! Non-vacuity: the hypotheses are met at the root (ply 0) with the fuel the engine uses. -/
example : (0 : Nat) ≤ Gen.MAX_PLY ∧ 0 + qFuel ≥ Gen.MAX_PLY + 1 := by decide

/-! `nVal` (`Lemmas/NVal`) is the plain minimax value - no window, no move ordering, no environment. `Clean e`: the run
    ended neither stopped (the iteration completed) nor with an overflowed history array (finding D7: the Rust code
    panics there). -/

/-- **T19.2** For every rules instance, position, nominal depth at most 2, window `alpha < beta`, game history `H`,
    ply below the cap and environment (killers, history scores, PV, poll schedule), with the table bypassed: when the
    search was neither stopped nor ran out of history slots, the value `negamax` returns is the minimax value when it lies
    strictly inside the window, an upper bound of it when at most `alpha`, a lower bound when at least `beta`. PVS
    null-window probes, re-searches, the beta cut-off, move ordering (T6.2) and the PV bookkeeping all drop out; late-move
    reductions need depth >= 3 and the null move an extended depth >= 3 out of check, which cannot happen here. -/
theorem negamax_shallow_is_sound_minimax (R : Rules) (cfg : Cfg) (hbyp : cfg.ttBypass = true) (H : List UInt64)
    (fuel : Nat) (g : Game) (depth : Nat) (alpha beta : Int) (e : Env) (hd : depth ≤ 2) (hab : alpha < beta)
    (hply : e.ply ≤ 63) (hfuel : e.ply + fuel ≥ Gen.MAX_PLY) (hH : e.rep.pre = H)
    (hclean : Clean (negamax R cfg fuel g depth alpha beta e).2) :
    Sound (negamax R cfg fuel g depth alpha beta e).1 (nVal R H fuel g depth e.ply) alpha beta :=
  negamax_value R cfg hbyp H fuel g depth alpha beta e hd hab hply hfuel hH hclean

/-- the reading used in the property: inside the window the score *is* the minimax value, outside it the value lies on
    the reported side -/
theorem negamax_shallow_agrees (R : Rules) (cfg : Cfg) (hbyp : cfg.ttBypass = true) (H : List UInt64)
    (fuel : Nat) (g : Game) (depth : Nat) (alpha beta : Int) (e : Env) (hd : depth ≤ 2) (hab : alpha < beta)
    (hply : e.ply ≤ 63) (hfuel : e.ply + fuel ≥ Gen.MAX_PLY) (hH : e.rep.pre = H)
    (hclean : Clean (negamax R cfg fuel g depth alpha beta e).2) :
    Agree (negamax R cfg fuel g depth alpha beta e).1 (nVal R H fuel g depth e.ply) alpha beta :=
  (negamax_shallow_is_sound_minimax R cfg hbyp H fuel g depth alpha beta e hd hab hply hfuel hH hclean).agree

/-- what the value is at a position without a legal move: mate by distance, stalemate zero -/
theorem nVal_terminal (R : Rules) (H : List UInt64) (fuel : Nat) (g : Game) (depth ply : Nat)
    (hrep : (decide (ply > 0) && H.contains g.key) = false) (hcap : ¬ ply ≥ Gen.MAX_PLY - 1)
    (hq : (depth == 0 || g.halfMoves == 100) = false) (hnone : madeCount R g (R.generate g true) = 0) :
    nVal R H (fuel + 1) g depth ply = if R.inCheck g then -Gen.MATE_VALUE + ply else 0 := by
  rw [nVal_interior R H fuel g depth ply hrep hcap hq, (maxChild_none_iff_madeCount R _ g _).2 hnone]

/-- **T19.3** Every iteration of nominal depth 1 or 2 that `search` runs (`idTrace`: depth, aspiration window, score,
    in the order of the loop - the full window first, then +-50 around the previous score or the full window again after
    a failed one) has `alpha < beta` and returns a sound answer for the minimax value of that depth at the root, whenever
    the loop ended neither stopped nor overflowed: the score of an iteration inside its window is the exact minimax value,
    the score of a failed one bounds it on the reported side. -/
theorem iterations_are_sound_minimax (R : Rules) (cfg : Cfg) (hbyp : cfg.ttBypass = true) (g : Game) (H : List UInt64)
    (count cur : Nat) (alpha beta score : Int) (e : Env) (hab : alpha < beta) (hp : e.ply = 0) (hH : e.rep.pre = H)
    (hclean : Clean (idLoop R cfg g count cur alpha beta score e).2.2) :
    ∀ it ∈ idTrace R cfg g count cur alpha beta e, it.depth ≤ 2 →
      it.alpha < it.beta ∧ Sound it.score (nVal R H negaFuel g it.depth 0) it.alpha it.beta :=
  idLoop_value R cfg hbyp g H count cur alpha beta score e hab hp hH hclean

/-- the score `search` reports is the score of the last iteration of that list -/
theorem reported_score_is_last_iteration (R : Rules) (cfg : Cfg) (g : Game) (count cur : Nat) (alpha beta score : Int) (e : Env) :
    (idLoop R cfg g count cur alpha beta score e).1 =
      ((idTrace R cfg g count cur alpha beta e).getLast?.map Iter.score).getD score :=
  idLoop_score R cfg g count cur alpha beta score e

/-- the start of `search`: ply 0, the full window, the history handed in -/
example (tt : TT) (rep : RepTable) : (Env.fresh tt rep).ply = 0 ∧ (Env.fresh tt rep).rep.pre = rep.pre ∧
    -Gen.INFINITY < Gen.INFINITY ∧ (0 : Nat) ≤ 63 ∧ 0 + negaFuel ≥ Gen.MAX_PLY := by
  refine ⟨rfl, rfl, by decide, by decide, by decide⟩

/-- **T19.3 with the overflow hypothesis discharged**: when the loop starts at the root with room in the history array
    (`Safe`: at ply 0, 65 free slots) and ends without having been stopped, every iteration of depth 1 or 2 is a sound
    answer for the minimax value of its depth. -/
theorem iterations_are_sound_minimax_of_room (R : Rules) (cfg : Cfg) (hbyp : cfg.ttBypass = true) (g : Game) (H : List UInt64)
    (count cur : Nat) (alpha beta score : Int) (e : Env) (hab : alpha < beta) (hp : e.ply = 0) (hH : e.rep.pre = H)
    (hsafe : Safe e) (hrun : (idLoop R cfg g count cur alpha beta score e).2.2.stopping = false) :
    ∀ it ∈ idTrace R cfg g count cur alpha beta e, it.depth ≤ 2 →
      it.alpha < it.beta ∧ Sound it.score (nVal R H negaFuel g it.depth 0) it.alpha it.beta :=
  idLoop_value R cfg hbyp g H count cur alpha beta score e hab hp hH ⟨idLoop_safe R cfg g count cur alpha beta score e hsafe, hrun⟩

/-- `search` starts the loop that way whenever the history handed in leaves room -/
example (tt : TT) (rep : RepTable) (h : HistoryRoom rep) : Safe (Env.fresh tt rep) := fresh_safe tt rep h.1 h.2
example : HistoryRoom RepTable.new := new_room

/-! Non-vacuity of `Clean`: a concrete run (toy rules: one move from the root, none after it) that ends neither stopped
    nor overflowed - and returns the minimax value: the negated evaluation at depth 1, stalemate below the root at depth 2. -/
def toyRules : Rules where
  generate := fun _ b => if b then [Move.null] else []
  make := fun g _ => if g.halfMoves == 0 then some { g with halfMoves := 1 } else none
  inCheck := fun _ => false
  evaluate := fun _ => 7
  nullMove := id
  firstLegal := fun _ => none
def toyRun (depth : Nat) : Int × Env :=
  negamax toyRules { ttBypass := true } negaFuel default depth (-Gen.INFINITY) Gen.INFINITY (Env.fresh (TT.new 1) RepTable.new)
example : (toyRun 1).2.stopping = false ∧ (toyRun 1).2.rep.overflow = false ∧ (toyRun 1).1 = -7 := by decide +kernel
example : (toyRun 2).2.stopping = false ∧ (toyRun 2).2.rep.overflow = false ∧ (toyRun 2).1 = 0 := by decide +kernel

end Jence.Props.C19
